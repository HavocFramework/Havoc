import HavocVerif.Lemmas.Queue
/-
  Concurrency model for the job queue (C04, "including when they run concurrently").

  Two granularities.
  * Atomic: every queue operation is one step (what `Agent.JobMtx` gives: Gen.LockFacts
    shows that every access to `JobQueue` / `Tasks` happens with it held).  An execution is
    then a list of `QOp`s that contains every thread's operations in that thread's order –
    nothing else is assumed about the schedule.
  * Fine: the slice header is loaded and stored in separate steps (what the Go code does
    without the mutex).  Used only to show that the lock is necessary.
-/
namespace Havoc

/-- what producers have queued, in the order their `AddJobToQueue` calls took effect -/
def enqueuedOf {α : Type} : List (QOp α) → List α
  | [] => []
  | .enqueue j :: ops => j :: enqueuedOf ops
  | _ :: ops => enqueuedOf ops

theorem enqueuedOf_append {α : Type} (a b : List (QOp α)) :
    enqueuedOf (a ++ b) = enqueuedOf a ++ enqueuedOf b := by
  induction a with
  | nil => rfl
  | cons op a ih => cases op <;> simp [enqueuedOf, ih]

theorem enqueuedOf_cons {α : Type} (op : QOp α) (ops : List (QOp α)) :
    enqueuedOf (op :: ops) = enqueuedOf [op] ++ enqueuedOf ops := enqueuedOf_append [op] ops

theorem qrun_enqueued_gen {α : Type} (size : α → Nat) (ops : List (QOp α)) (s : QState α) :
    (ops.foldl (qstep size) s).enqueued = s.enqueued ++ enqueuedOf ops := by
  induction ops generalizing s with
  | nil => simp [enqueuedOf]
  | cons op ops ih =>
    simp only [List.foldl_cons]
    rw [ih]
    cases op with
    | enqueue j => simp [qstep, enqueuedOf]
    | clear => simp [qstep, enqueuedOf]
    | checkin asked => simp [qstep_checkin, enqueuedOf]

theorem qrun_enqueued {α : Type} (size : α → Nat) (ops : List (QOp α)) :
    (qrun size ops).enqueued = enqueuedOf ops := by
  simpa [qrun] using qrun_enqueued_gen size ops {}

/-! ### schedules: threads with their own programs, one step at a time -/

/-- run a schedule: `sched` names, step by step, the thread whose next operation executes
    (a thread that has finished is skipped) -/
def interleave {β : Type} : List (List β) → List Nat → List β
  | _, [] => []
  | ts, i :: sched =>
    match ts[i]? with
    | some (op :: rest) => op :: interleave (ts.set i rest) sched
    | _ => interleave ts sched

/-- the operations of thread `i` that a schedule has executed -/
def executed {β : Type} (ts : List (List β)) (sched : List Nat) (i : Nat) : List β :=
  (ts[i]?.getD []).take (sched.count i)

/-! ### fine-grained (unlocked) steps -/

inductive FStep (α : Type) where
  | load (t : Nat)                     -- thread t reads the slice header into its register
  | storeAppend (t : Nat) (x : α)      -- thread t stores  register ++ [x]          (AddJobToQueue)
  | storeTake (t : Nat) (n : Nat)      -- thread t hands out register[:n], stores register[n:]   (GetQueuedJobs)

structure FState (α : Type) where
  cell : List α := []
  regs : List (Nat × List α) := []
  delivered : List α := []
  enqueued : List α := []

def FState.reg {α : Type} (s : FState α) (t : Nat) : List α :=
  match s.regs.find? (·.1 == t) with
  | some (_, r) => r
  | none => []

def fstep {α : Type} (s : FState α) : FStep α → FState α
  | .load t => { s with regs := (t, s.cell) :: s.regs.filter (·.1 != t) }
  | .storeAppend t x => { s with cell := s.reg t ++ [x], enqueued := s.enqueued ++ [x] }
  | .storeTake t n => { s with cell := (s.reg t).drop n, delivered := s.delivered ++ (s.reg t).take n }

def frun {α : Type} (steps : List (FStep α)) : FState α := steps.foldl fstep {}

theorem reg_after_load {α : Type} (s : FState α) (t : Nat) : (fstep s (.load t)).reg t = s.cell := by
  simp [fstep, FState.reg]

/-- under the lock a thread's load is followed by its own store with nothing in between:
    the pair is exactly the atomic enqueue -/
theorem locked_append_atomic {α : Type} (s : FState α) (t : Nat) (x : α) :
    (fstep (fstep s (.load t)) (.storeAppend t x)).cell = s.cell ++ [x] := by
  rw [← reg_after_load s t]
  rfl

/-- … and the atomic take -/
theorem locked_take_atomic {α : Type} (s : FState α) (t n : Nat) :
    (fstep (fstep s (.load t)) (.storeTake t n)).cell = s.cell.drop n ∧
    (fstep (fstep s (.load t)) (.storeTake t n)).delivered = s.delivered ++ s.cell.take n := by
  rw [← reg_after_load s t]
  exact ⟨rfl, rfl⟩

end Havoc
