/-
  Bytes, fixed-width integer encodings (big- and little-endian) and their
  round-trip lemmas.  Core Lean only (no Mathlib) so the driver links.
-/
namespace Havoc

abbrev Bytes := List UInt8

/-- big-endian value of a byte string (Go: `binary.BigEndian.UintNN`). -/
def beNat (bs : Bytes) : Nat := bs.foldl (fun acc b => acc * 256 + b.toNat) 0

/-- little-endian value of a byte string (Go: `binary.LittleEndian.UintNN`). -/
def leNat : Bytes → Nat
  | [] => 0
  | b :: bs => b.toNat + 256 * leNat bs

def be16 (v : Nat) : Bytes := [UInt8.ofNat (v / 256 % 256), UInt8.ofNat (v % 256)]
def le16 (v : Nat) : Bytes := [UInt8.ofNat (v % 256), UInt8.ofNat (v / 256 % 256)]

def be32 (v : Nat) : Bytes :=
  [UInt8.ofNat (v / 16777216 % 256), UInt8.ofNat (v / 65536 % 256),
   UInt8.ofNat (v / 256 % 256), UInt8.ofNat (v % 256)]

def le32 (v : Nat) : Bytes :=
  [UInt8.ofNat (v % 256), UInt8.ofNat (v / 256 % 256),
   UInt8.ofNat (v / 65536 % 256), UInt8.ofNat (v / 16777216 % 256)]

def be64 (v : Nat) : Bytes := be32 (v / 4294967296 % 4294967296) ++ be32 (v % 4294967296)
def le64 (v : Nat) : Bytes := le32 (v % 4294967296) ++ le32 (v / 4294967296 % 4294967296)

@[simp] theorem be32_length (v : Nat) : (be32 v).length = 4 := rfl
@[simp] theorem le32_length (v : Nat) : (le32 v).length = 4 := rfl
@[simp] theorem be64_length (v : Nat) : (be64 v).length = 8 := rfl
@[simp] theorem le64_length (v : Nat) : (le64 v).length = 8 := rfl
@[simp] theorem be16_length (v : Nat) : (be16 v).length = 2 := rfl
@[simp] theorem le16_length (v : Nat) : (le16 v).length = 2 := rfl

theorem beNat_foldl (bs : Bytes) (acc : Nat) :
    bs.foldl (fun acc b => acc * 256 + b.toNat) acc = acc * 256 ^ bs.length + beNat bs := by
  induction bs generalizing acc with
  | nil => simp [beNat]
  | cons b bs ih =>
    simp only [beNat, List.foldl_cons, ih (_ * 256 + _), List.length_cons, Nat.pow_succ]
    simp [Nat.add_mul, Nat.mul_assoc, Nat.add_assoc, Nat.mul_comm 256]

theorem beNat_append (a b : Bytes) : beNat (a ++ b) = beNat a * 256 ^ b.length + beNat b := by
  rw [beNat, List.foldl_append, beNat_foldl]; rfl

theorem leNat_append (a b : Bytes) : leNat (a ++ b) = leNat a + 256 ^ a.length * leNat b := by
  induction a with
  | nil => simp [leNat]
  | cons x a ih =>
    simp only [List.cons_append, leNat, ih, List.length_cons, Nat.pow_succ, Nat.mul_add, Nat.add_assoc,
      Nat.mul_assoc, Nat.mul_left_comm 256]

/-- the `k` low base-256 digits of `v`, least significant first: `le16`, `le32` and (reversed) `be32`
    are instances, so their round trips are positional notation and not a computation on constants -/
def leDigits : Nat → Nat → Bytes
  | 0, _ => []
  | k + 1, v => UInt8.ofNat (v % 256) :: leDigits k (v / 256)

theorem leNat_leDigits (k v : Nat) : leNat (leDigits k v) = v % 256 ^ k := by
  induction k generalizing v with
  | zero => rw [leDigits, leNat, Nat.pow_zero, Nat.mod_one]
  | succ k ih =>
    have e : 256 ^ (k + 1) = 256 * 256 ^ k := by rw [Nat.pow_succ, Nat.mul_comm]
    simp [leDigits, leNat, ih, e, Nat.mod_mul]

theorem beNat_reverse (bs : Bytes) : beNat bs.reverse = leNat bs := by
  induction bs with
  | nil => rfl
  | cons b bs ih =>
    rw [List.reverse_cons, beNat_append, ih, leNat, Nat.mul_comm, Nat.add_comm]
    simp [beNat]

theorem le16_eq (v : Nat) : le16 v = leDigits 2 v := by
  simp [le16, leDigits]

theorem le32_eq (v : Nat) : le32 v = leDigits 4 v := by
  simp [le32, leDigits, Nat.div_div_eq_div_mul]

theorem be32_eq (v : Nat) : be32 v = (leDigits 4 v).reverse := by
  simp [be32, leDigits, Nat.div_div_eq_div_mul]

theorem beNat_be32 (v : Nat) (h : v < 4294967296) : beNat (be32 v) = v := by
  rw [be32_eq, beNat_reverse, leNat_leDigits]
  exact Nat.mod_eq_of_lt h

theorem leNat_le32 (v : Nat) (h : v < 4294967296) : leNat (le32 v) = v := by
  rw [le32_eq, leNat_leDigits]
  exact Nat.mod_eq_of_lt h

theorem leNat_le16 (v : Nat) (h : v < 65536) : leNat (le16 v) = v := by
  rw [le16_eq, leNat_leDigits]
  exact Nat.mod_eq_of_lt h

-- the 64-bit encodings are two 32-bit words; unfolding them to eight bytes of div/mod terms is very slow to check
theorem beNat_be64 (v : Nat) (h : v < 18446744073709551616) : beNat (be64 v) = v := by
  rw [be64, beNat_append, beNat_be32 _ (Nat.mod_lt _ (by decide)), beNat_be32 _ (Nat.mod_lt _ (by decide)),
    be32_length]
  omega

theorem leNat_le64 (v : Nat) (h : v < 18446744073709551616) : leNat (le64 v) = v := by
  rw [le64, leNat_append, leNat_le32 _ (Nat.mod_lt _ (by decide)), leNat_le32 _ (Nat.mod_lt _ (by decide)),
    le32_length]
  omega

theorem beNat_cons (b : UInt8) (bs : Bytes) :
    beNat (b :: bs) = b.toNat * 256 ^ bs.length + beNat bs := by
  rw [beNat, List.foldl_cons, beNat_foldl, Nat.zero_mul, Nat.zero_add]

theorem beNat_lt (bs : Bytes) : beNat bs < 256 ^ bs.length := by
  induction bs with
  | nil => simp [beNat]
  | cons b bs ih =>
    have := Nat.mul_le_mul_right (256 ^ bs.length) (Nat.le_of_lt_succ (UInt8.toNat_lt b))
    rw [beNat_cons, List.length_cons, Nat.pow_succ]
    omega

theorem beNat_lt_4 (bs : Bytes) (h : bs.length = 4) : beNat bs < 4294967296 := by
  simpa [h] using beNat_lt bs

theorem beNat_lt_8 (bs : Bytes) (h : bs.length = 8) : beNat bs < 18446744073709551616 := by
  simpa [h] using beNat_lt bs

/-- byte strings of one length with one value are equal: the leading byte is the quotient by
    `256 ^ length of the rest`, the rest has the remainder as its value -/
theorem beNat_inj : ∀ (a b : Bytes), a.length = b.length → beNat a = beNat b → a = b
  | [], [], _, _ => rfl
  | x :: xs, y :: ys, hl, h => by
    have hl' : xs.length = ys.length := Nat.succ.inj hl
    have hx := beNat_lt xs
    have hy := beNat_lt ys
    have hP : 0 < 256 ^ ys.length := Nat.pow_pos (by decide)
    rw [hl'] at hx
    rw [beNat_cons, beNat_cons, hl', Nat.mul_comm, Nat.mul_comm y.toNat] at h
    have hd := congrArg (· / 256 ^ ys.length) h
    have hm := congrArg (· % 256 ^ ys.length) h
    simp only [Nat.mul_add_div hP, Nat.mul_add_mod, Nat.div_eq_of_lt hx, Nat.div_eq_of_lt hy,
      Nat.mod_eq_of_lt hx, Nat.mod_eq_of_lt hy, Nat.add_zero] at hd hm
    rw [UInt8.toNat_inj.mp hd, beNat_inj xs ys hl' hm]

theorem be32_beNat (bs : Bytes) (h : bs.length = 4) : be32 (beNat bs) = bs :=
  beNat_inj _ _ (by rw [be32_length, h]) (beNat_be32 _ (beNat_lt_4 bs h))

theorem be64_beNat (bs : Bytes) (h : bs.length = 8) : be64 (beNat bs) = bs :=
  beNat_inj _ _ (by rw [be64_length, h]) (beNat_be64 _ (beNat_lt_8 bs h))

/-! ### hex (line protocol) -/

def hexDigit (n : Nat) : Char :=
  if n < 10 then Char.ofNat (48 + n) else Char.ofNat (87 + n)

def hexOfByte (b : UInt8) : List Char := [hexDigit (b.toNat / 16), hexDigit (b.toNat % 16)]

def toHex (bs : Bytes) : String := String.ofList (bs.flatMap hexOfByte)

def hexVal (c : Char) : Option Nat :=
  if '0' ≤ c ∧ c ≤ '9' then some (c.toNat - 48)
  else if 'a' ≤ c ∧ c ≤ 'f' then some (c.toNat - 87)
  else if 'A' ≤ c ∧ c ≤ 'F' then some (c.toNat - 55)
  else none

def ofHexChars : List Char → Option Bytes
  | [] => some []
  | [_] => none
  | a :: b :: rest => do
    let x ← hexVal a
    let y ← hexVal b
    let r ← ofHexChars rest
    pure (UInt8.ofNat (x * 16 + y) :: r)

/-- `"-"` is the empty byte string in the line protocol. -/
def ofHex (s : String) : Option Bytes :=
  if s = "-" then some [] else ofHexChars s.toList

def toHexP (bs : Bytes) : String := if bs.isEmpty then "-" else toHex bs

end Havoc
