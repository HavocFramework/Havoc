import HavocVerif.Model.Body
/-
  C19 — Equivalent configurations decode to the same result.
  `Bd.decode` is what a body means under a schema.  It depends on the attributes only as a map and
  on the blocks only through the sequence of blocks of each type: every rewrite that keeps those
  (reordering attributes, moving blocks of different types past each other, cutting the file in two
  and merging, writing a run of blocks as a dynamic block, changing comments / spacing / syntax)
  keeps the decoded value AND keeps validity.
-/
namespace Havoc.C19
open Havoc.Bd

/-! ### attributes are a map -/

theorem lookup_eq_some_iff_mem {α : Type} {l : List (String × α)} (hn : (l.map (·.1)).Nodup) (n : String) (v : α) :
    l.lookup n = some v ↔ (n, v) ∈ l := by
  induction l with
  | nil => simp
  | cons x l ih =>
    obtain ⟨k, w⟩ := x
    simp only [List.map_cons, List.nodup_cons] at hn
    rw [List.lookup_cons, List.mem_cons]
    by_cases h : n = k
    · subst h
      have : (n, v) ∉ l := fun hm => hn.1 (List.mem_map_of_mem (f := (·.1)) hm)
      simp [this, eq_comm]
    · simp [beq_eq_false_iff_ne.mpr h, h, ih hn.2]

theorem lookup_perm {α : Type} (n : String) : ∀ (l l' : List (String × α)), l.Perm l' → (l.map (·.1)).Nodup →
    l.lookup n = l'.lookup n := by
  intro l l' hp hn
  have hn' := (hp.map (·.1)).nodup_iff.mp hn
  apply Option.ext
  intro v
  rw [lookup_eq_some_iff_mem hn, lookup_eq_some_iff_mem hn', hp.mem_iff]

/-! ### what `decode` sees of a body -/

theorem all_congr {α : Type} {l l' : List α} (h : ∀ x, x ∈ l ↔ x ∈ l') (p : α → Bool) : l.all p = l'.all p := by
  apply Bool.eq_iff_iff.mpr
  simp only [List.all_eq_true, h]

theorem mem_blocksOfType (b : String × String × Cfg) (bs : List (String × String × Cfg)) :
    b ∈ blocksOfType b.1 bs ↔ b ∈ bs := by simp [blocksOfType]

/-- `decode` sees the attributes as a set and as a map, and the blocks through the sequence of blocks
    of each type: two bodies that agree in these decode alike, valid or not. -/
theorem decode_congr (fuel : Nat) (s : Sch) (label : Option String) {c c' : Cfg}
    (hm : ∀ x, x ∈ c.attrs ↔ x ∈ c'.attrs) (hl : ∀ n, c.attrs.lookup n = c'.attrs.lookup n)
    (hb : ∀ t, blocksOfType t c.blocks = blocksOfType t c'.blocks) :
    decode fuel s label c = decode fuel s label c' := by
  have hmb : ∀ x, x ∈ c.blocks ↔ x ∈ c'.blocks := fun x => by
    rw [← mem_blocksOfType, hb, mem_blocksOfType]
  cases fuel with
  | zero => rfl
  | succ f => simp only [decode, all_congr hm, all_congr hmb, hl, hb]

/-- reordering the attributes of a body changes neither its decoded value nor its validity -/
theorem attribute_order_irrelevant (fuel : Nat) (s : Sch) (label : Option String)
    (attrs attrs' : List (String × String)) (blocks : List (String × String × Cfg))
    (hp : attrs.Perm attrs') (hn : (attrs.map (·.1)).Nodup) :
    decode fuel s label (.mk attrs blocks) = decode fuel s label (.mk attrs' blocks) :=
  decode_congr fuel s label (fun _ => hp.mem_iff) (fun n => lookup_perm n attrs attrs' hp hn) (fun _ => rfl)

/-- Two bodies with the same attributes whose blocks agree type by type (same blocks of each type
    in the same order) decode alike: this is what block reordering across types, splitting a file
    and merging the parts, and expanding dynamic blocks in place all preserve. -/
theorem blocks_matter_per_type (fuel : Nat) (s : Sch) (label : Option String) (attrs : List (String × String))
    (bs bs' : List (String × String × Cfg)) (h : ∀ t, blocksOfType t bs = blocksOfType t bs') :
    decode fuel s label (.mk attrs bs) = decode fuel s label (.mk attrs bs') :=
  decode_congr fuel s label (fun _ => Iff.rfl) (fun _ => rfl) h

/-- the items of a file in source order -/
inductive Item where
  | attr (n v : String)
  | block (b : String × String × Cfg)

def bodyOf (items : List Item) : Cfg :=
  .mk (items.filterMap fun | .attr n v => some (n, v) | _ => none) (items.filterMap fun | .block b => some b | _ => none)

/-- MergeFiles / MergeBodies: the attributes of both, the blocks of the first followed by those of the second -/
def merge (a b : Cfg) : Cfg := .mk (a.attrs ++ b.attrs) (a.blocks ++ b.blocks)

/-- cutting a file anywhere between two items and merging the two parts gives the same body -/
theorem cut_and_merge (l1 l2 : List Item) : merge (bodyOf l1) (bodyOf l2) = bodyOf (l1 ++ l2) := by
  simp [merge, bodyOf, Cfg.attrs, Cfg.blocks, List.filterMap_append]

theorem cut_and_merge_decodes_alike (fuel : Nat) (s : Sch) (label : Option String) (l1 l2 : List Item) :
    decode fuel s label (merge (bodyOf l1) (bodyOf l2)) = decode fuel s label (bodyOf (l1 ++ l2)) := by
  rw [cut_and_merge]

/-- moving a block of one type past a block of another type -/
theorem swap_different_types (fuel : Nat) (s : Sch) (label : Option String) (attrs : List (String × String))
    (pre post : List (String × String × Cfg)) (x y : String × String × Cfg) (hxy : x.1 ≠ y.1) :
    decode fuel s label (.mk attrs (pre ++ x :: y :: post)) = decode fuel s label (.mk attrs (pre ++ y :: x :: post)) := by
  apply blocks_matter_per_type
  intro t
  simp only [blocksOfType, List.filter_append, List.filter_cons]
  by_cases hx : (x.1 == t) = true
  · -- `x` is of type `t`, so `y` is not: only `x` passes the filter, on both sides
    have hy : (y.1 == t) = false := beq_eq_false_iff_ne.mpr fun e => hxy ((eq_of_beq hx).trans e.symm)
    simp [hx, hy]
  · simp [hx]

/-! ### validity

  `unfold decode`, not `simp only [decode]`: the generated equations split on `label`, so with `label` a
  variable simp goes through `decode.eq_def` and walks the whole body. -/

theorem missing_required_is_invalid (f : Nat) (s : Sch) (label : Option String) (c : Cfg) (n t : String)
    (hreq : (n, t, true) ∈ s.attrs) (hmiss : c.attrs.lookup n = none) : decode (f + 1) s label c = none := by
  unfold decode
  refine ite_eq_left_iff.mpr fun _ => ?_
  rw [if_pos]
  simp only [Bool.not_eq_true', List.all_eq_false, Bool.not_eq_true]
  exact ⟨(n, t, true), hreq, by simp [hmiss]⟩

theorem unknown_attribute_is_invalid (f : Nat) (s : Sch) (label : Option String) (c : Cfg) (n v : String)
    (hin : (n, v) ∈ c.attrs) (hunk : s.attrs.any (·.1 == n) = false) : decode (f + 1) s label c = none := by
  unfold decode
  rw [if_pos]
  simp only [Bool.not_eq_true', List.all_eq_false, Bool.not_eq_true]
  exact ⟨(n, v), hin, by simpa using hunk⟩

/-! example -/
example : decode 5 (.mk [("a", "s", true), ("b", "n", false)] [("blk", false, true, .mk [("x", "b", false)] [])]) none
    (.mk [("b", "n7"), ("a", "s61")] [("blk", noLabel, .mk [("x", "b1")] []), ("blk", noLabel, .mk [] [])])
    = some "{a=s61,b=n7,blk=[{x=t},{}]}" := by decide +kernel

end Havoc.C19
