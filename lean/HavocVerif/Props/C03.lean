import HavocVerif.Gen.SrcLines
import HavocVerif.Lemmas.Utf16
import HavocVerif.Lemmas.Register
/-
  C03 — What an agent reports is what the teamserver records and shows.
  Every theorem here is audited with `#print axioms` by the check.
-/
namespace Havoc.C03
open Havoc Parser

/-- 32-bit integers come out unchanged whatever follows them in the packet. -/
theorem parseInt32_spec (v : Nat) (rest : Bytes) (h : v < 4294967296) :
    parseInt32 ⟨be32 v ++ rest, true⟩ = (v, ⟨rest, true⟩) := parseInt32_be v rest h

/-- 64-bit values come out unchanged whatever follows them. -/
theorem parseInt64_spec (v : Nat) (rest : Bytes) (h : v < 18446744073709551616) :
    parseInt64 ⟨be64 v ++ rest, true⟩ = (v, ⟨rest, true⟩) := parseInt64_be v rest h

theorem parseBool_spec (b : Bool) (rest : Bytes) :
    parseBool ⟨be32 (if b then 1 else 0) ++ rest, true⟩ = (b, ⟨rest, true⟩) := parseBool_be b rest

/-- length-prefixed byte strings of any length and content come out unchanged. -/
theorem parseBytes_spec (d rest : Bytes) (h : d.length < 4294967296) :
    parseBytes ⟨be32 d.length ++ d ++ rest, true⟩ = (d, ⟨rest, true⟩) := parseBytes_be d rest h

theorem parseAtLeastBytes_spec (d rest : Bytes) :
    parseAtLeastBytes ⟨d ++ rest, true⟩ d.length = (d, ⟨rest, true⟩) := by
  simp [parseAtLeastBytes, Parser.length]
  omega

/-- A package built the way the Demon builds it is decoded field for field,
    for every field list and every residue. -/
theorem fields_roundtrip (fs : List Field) (rest : Bytes) (h : ∀ f ∈ fs, f.wf) :
    Parser.readFields ⟨encodeFields fs ++ rest, true⟩ (fs.map Field.kind) = (fs, ⟨rest, true⟩) := by
  induction fs with
  | nil => rfl
  | cons f fs ih =>
    rw [List.forall_mem_cons] at h
    simp only [List.map_cons, Parser.readFields, encodeFields_cons, List.append_assoc,
      readField_encode f _ h.1, ih h.2]

/-- The pre-flight check succeeds exactly when the fields are all there. -/
theorem canIRead_exact (ts : List ReadType) (buf : Bytes) :
    canIRead ⟨buf, true⟩ ts = true ↔ holdsFields ts buf := canIRead_iff ts buf

/-- … and the executable form of "the fields are all there" that the driver evaluates against the
    implementation's answer (Spec clause C03.can-i-read) is that same predicate, and is what the model computes -/
theorem holdsFieldsB_exact (ts : List ReadType) (buf : Bytes) :
    SpecC03.holdsFieldsB ts buf = true ↔ holdsFields ts buf := holdsFieldsB_iff ts buf

theorem canIRead_is_spec (ts : List ReadType) (buf : Bytes) :
    canIRead ⟨buf, true⟩ ts = SpecC03.holdsFieldsB ts buf := canIRead_eq_holdsFieldsB ts buf

/- a length prefix with the top bit set is a (huge) unsigned length: the fields are not there -/
example : SpecC03.holdsFieldsB [.bytes, .int32] [0xff, 0xff, 0xff, 0xff, 97, 98, 99] = false := by decide
example : SpecC03.holdsFieldsB [.bytes, .int32] [0, 0, 0, 3, 97, 98, 99, 0, 0, 0, 1, 9] = true := by decide

theorem canIRead_of_encoded (fs : List Field) (rest : Bytes) (h : ∀ f ∈ fs, f.wf) :
    canIRead ⟨encodeFields fs ++ rest, true⟩ (fs.map Field.kind) = true := by
  simpa [canIRead_eq_holdsFieldsB, SpecC03.holdsFieldsB] using
    holdsFieldsB_encode_append fs h [] rest

/-- The observation the Spec asks for is what the model produces (Spec ∘ Model). -/
theorem spec_decodeOk (fs : List Field) (rest : Bytes) (h : ∀ f ∈ fs, f.wf) :
    let p : Parser := ⟨encodeFields fs ++ rest, true⟩
    SpecC03.decodeOk fs rest
      ⟨p.canIRead (fs.map Field.kind), (p.readFields (fs.map Field.kind)).1,
       (p.readFields (fs.map Field.kind)).2.buf⟩ = true := by
  simp [SpecC03.decodeOk, canIRead_of_encoded fs rest h, fields_roundtrip fs rest h]

/-- UTF-16LE text of any scalars (incl. surrogate pairs) decodes to the same scalars. -/
theorem utf16_roundtrip (cs : List Nat) (h : ∀ c ∈ cs, isScalar c = true) :
    decodeUTF16 (encodeUTF16LE cs) = cs := by
  have := decodeUTF16_encode_append cs h []
  rwa [List.append_nil, decodeUTF16_nil, List.append_nil] at this

/-- odd lengths: the dangling byte is ignored (and nothing faults: the model is total). -/
theorem utf16_odd (cs : List Nat) (x : UInt8) (h : ∀ c ∈ cs, isScalar c = true) :
    decodeUTF16 (encodeUTF16LE cs ++ [x]) = cs := by
  rw [decodeUTF16_encode_append cs h, decodeUTF16_singleton, List.append_nil]

theorem spec_utf16Ok (cs : List Nat) (h : ∀ c ∈ cs, isScalar c = true) :
    SpecC03.utf16Ok cs (utf8 (decodeUTF16 (encodeUTF16LE cs))) = true := by
  simp [SpecC03.utf16Ok, utf16_roundtrip cs h]

/-- regenerated from pkg/common/util.go on every run: `DecodeUTF16` pairs the bytes little endian, ignores a dangling
    odd byte (`u16sOf`), and hands the WHOLE unit sequence to `utf16.Decode` in one call (`utf16Decode`), so a surrogate
    pair is never split by a block boundary, whatever the length -/
theorem decodeUTF16_transcribed :
    Gen.SrcLines.decodeUTF16 =
      ["DecodeUTF16(b []byte) string",
       "var u16s = make([]uint16, 0, len(b)/2)",
       "for i := 0; i+1 < len(b); i += 2 { u16s = append(u16s, uint16(b[i])+(uint16(b[i+1])<<8)) }",
       "return string(utf16.Decode(u16s))"] := rfl

/-! non-vacuity: concrete non-trivial instances of the hypotheses -/
example : ∀ f ∈ [Field.int32 4294967295, .bytes [1, 2, 3], .int64 0, .bool true], f.wf := by
  decide
example : ∀ c ∈ [0x41, 0x1F600, 0xFFFD, 0], isScalar c = true := by decide
example : Parser.readFields ⟨encodeFields [.int32 7, .bytes [9]] ++ [1, 2, 3], true⟩ [.int32, .bytes]
    = ([.int32 7, .bytes [9]], ⟨[1, 2, 3], true⟩) := by decide


/-! ### registration and the session table -/

/-- A registration built the way the Demon builds it (key, IV, metadata encrypted after
    them) creates a session whose id is the sender's id and whose key, IV and every
    metadata field are the ones sent — for every key/IV (incl. the all-zero key), every
    cipher, every field value. -/
theorem register_faithful (ksFor : Bytes → Bytes → KeyStream) (key iv : Bytes) (id : Nat)
    (strs nums : List Field) (hk : key.length = 32) (hiv : iv.length = 16) (hid : id < 4294967296)
    (hs : strs.map Field.kind = strKinds) (hn : nums.map Field.kind = numKinds)
    (hwf : ∀ f ∈ strs ++ nums, f.wf) :
    parseRegister id ksFor (demonInitBody ksFor key iv id (strs ++ nums))
      = some ⟨id, key, iv, strs ++ nums⟩ := by
  have hall : ∀ f ∈ Field.int32 id :: (strs ++ nums), f.wf := List.forall_mem_cons.mpr ⟨hid, hwf⟩
  have hr := fields_roundtrip _ [] hall
  rw [List.append_nil, List.map_cons, List.map_append, hs, hn, Field.kind, ← registerKinds_eq] at hr
  rw [demonInitBody, parseRegister_append _ _ _ _ _ hk hiv, xcrypt_unless_twice, registerOf,
    guard_of_encoded id strs nums hid hs hn hwf]
  simp only [hr, if_true]

/-- a session is only ever created under the id named in the packet header -/
theorem registered_id_is_sender (ksFor : Bytes → Bytes → KeyStream) (hdrId : Nat) (buf : Bytes) (s : Session)
    (h : parseRegister hdrId ksFor buf = some s) : s.id = hdrId := parseRegister_id hdrId ksFor buf s h

/-- identity invariant, one step: registrations / re-registrations never change an existing
    session's id, key or IV and never create a second session with an id already present -/
theorem handleInit_inv (ksFor : Bytes → Bytes → KeyStream) (s : Sessions) (hdrId : Nat) (buf : Bytes)
    (hnd : (s.map (·.id)).Nodup) :
    ((handleInit ksFor s hdrId buf).1.map (·.id)).Nodup ∧
      ∃ extra, (handleInit ksFor s hdrId buf).1 = s ++ extra ∧ extra.length ≤ 1 := by
  rcases handleInit_table ksFor s hdrId buf with h | ⟨sess, r, h, hid, hnew⟩
  · rw [h]
    exact ⟨hnd, [], by simp, by simp⟩
  · rw [h]
    refine ⟨?_, [sess], rfl, by simp⟩
    simpa [List.nodup_append, hnd, hid] using hnew

/-- identity invariant over any sequence of registration packets (arbitrary bytes) -/
theorem identity_invariant (ksFor : Bytes → Bytes → KeyStream) (pkts : List (Nat × Bytes)) :
    let final := pkts.foldl (fun s p => (handleInit ksFor s p.1 p.2).1) ([] : Sessions)
    (final.map (·.id)).Nodup := by
  suffices h : ∀ (s : Sessions), (s.map (·.id)).Nodup →
      ((pkts.foldl (fun s p => (handleInit ksFor s p.1 p.2).1) s).map (·.id)).Nodup from h [] (by simp)
  induction pkts with
  | nil => intro s h; simpa using h
  | cons p ps ih =>
    intro s h
    simp only [List.foldl_cons]
    exact ih _ (handleInit_inv ksFor s p.1 p.2 h).1

/-- the reply to a registration is the agent id under the session key (read back by the Demon) -/
theorem register_reply (ksFor : Bytes → Bytes → KeyStream) (key iv : Bytes) (id : Nat) :
    (if allZero key then initReply ksFor key iv id else xcrypt (ksFor key iv) (initReply ksFor key iv id))
      = le32 id := xcrypt_unless_twice _ _ _

example : strKinds = [ReadType.bytes, .bytes, .bytes, .bytes, .bytes] ∧ numKinds.length = 16 := by decide

end Havoc.C03
