import HavocVerif.Lemmas.Builder
import HavocVerif.Gen.Consts
import HavocVerif.Gen.CallSeq
import HavocVerif.Gen.DemonConfig
/-
  C13 — A generated payload is configured for exactly the chosen listener and options.
-/
namespace Havoc.C13
open Havoc

/-- For every configuration whose numbers fit their fields: the Demon, reading the block field
    by field the way DemonConfig() does, ends up with exactly that configuration and has then
    consumed exactly the block. -/
theorem config_roundtrip (c : DemonCfg) (h : WfCfg c) : readCfg c.transport.isSmb (packCfg c) = some (c, []) := by
  simpa using readCfg_packCfg c [] h

theorem flatMap_units_len (cs : List Nat) : (cs.flatMap utf16Units).length ≤ 2 * cs.length := by
  induction cs with
  | nil => simp
  | cons c cs ih =>
    have : (utf16Units c).length ≤ 2 := by unfold utf16Units; split <;> simp
    simp only [List.flatMap_cons, List.length_append, List.length_cons]; omega

/-- an operator string of scalar values, shorter than 2^29 characters -/
def StrOk (cs : List Nat) : Prop := (∀ c ∈ cs, c < 0x110000) ∧ cs.length < 536870912

theorem wide_wf (cs : List Nat) (h : StrOk cs) : WfW (wide cs) := by
  have key : ∀ l : List Nat, (∀ c ∈ l, c < 0x110000) → l.length ≤ cs.length + 1 → WfW (l.flatMap utf16Units) :=
    fun l h1 h2 => ⟨utf16Units_lt l h1, by have := flatMap_units_len l; have := h.2; omega⟩
  unfold wide
  split
  · exact key cs h.1 (by omega)
  · refine key _ (fun c hc => ?_) (by simp)
    rcases List.mem_append.mp hc with hc | hc
    · exact h.1 c hc
    · simp at hc; omega

theorem strOk_append (a b : List Nat) (ha : StrOk a) (hb : StrOk b) (hl : a.length + b.length < 536870912) : StrOk (a ++ b) :=
  ⟨fun c hc => (List.mem_append.mp hc).elim (ha.1 c) (hb.1 c), by simpa using hl⟩

/-- the five fields of the packed word, as the Demon's bit masks take them apart -/
def unpackHours (w : Nat) : Nat × Nat × Nat × Nat × Nat :=
  (w / 4194304 % 2, w / 131072 % 32, w / 2048 % 64, w / 64 % 32, w % 64)

theorem unpack_packHours (sh sm eh em : Nat) (h1 : sh < 32) (h2 : sm < 64) (h3 : eh < 32) (h4 : em < 64) :
    unpackHours (packHours sh sm eh em) = (1, sh, sm, eh, em) := by
  simp only [unpackHours, packHours, Prod.mk.injEq, Nat.mod_eq_of_lt h1, Nat.mod_eq_of_lt h2, Nat.mod_eq_of_lt h3,
    Nat.mod_eq_of_lt h4]
  omega

/-- every accepted working-hours value survives the bit packing -/
theorem hours_roundtrip (sh sm eh em : Nat) (h : hoursOk sh sm eh em = true) :
    unpackHours (packHours sh sm eh em) = (1, sh, sm, eh, em) := by
  simp only [hoursOk, Bool.and_eq_true, decide_eq_true_eq] at h
  exact unpack_packHours sh sm eh em (by omega) (by omega) (by omega) (by omega)

theorem packHours_lt (sh sm eh em : Nat) : packHours sh sm eh em < 4294967296 := by
  unfold packHours
  omega

theorem hours_word_fits (raw : List Nat) (w : Nat) (h : hoursWord raw = some w) : w < 4294967296 := by
  unfold hoursWord at h
  split at h
  · cases h
  · cases h; decide
  · split at h
    · cases h; exact packHours_lt _ _ _ _
    · cases h

/-- the grammar: what is accepted, what is refused -/
example : parseHours (asciiStr "8:00-17:00") = some (some ⟨8, 0, 17, 0⟩) := by decide
example : parseHours (asciiStr "24:60-29:69") = some (some ⟨24, 60, 29, 69⟩) := by decide
example : hoursWord (asciiStr "24:60-29:69") = none := by decide
example : hoursWord (asciiStr "17:00-8:00") = none := by decide
example : hoursWord (asciiStr "9:30-9:30") = none := by decide
example : parseHours (asciiStr "08:00-17:00") = none := by decide
example : parseHours (asciiStr "8:00-17:00 ") = none := by decide
example : hoursWord [] = some 0 := by decide

theorem bad_sleep_fails (o : BuildOpts) (l : ListenerL) (h : inI32 o.sleep = false) : patchConfig o l = none := by
  simp [patchConfig, specCfg, h]

theorem bad_jitter_fails (o : BuildOpts) (l : ListenerL) (h : ¬ (0 ≤ o.jitter ∧ o.jitter ≤ 100)) : patchConfig o l = none := by
  have : (decide (0 ≤ o.jitter) && decide (o.jitter ≤ 100)) = false := by simp; omega
  simp [patchConfig, specCfg, this]

theorem get_method_fails (o : BuildOpts) (h : HttpL) (hg : h.getMethod = true) : patchConfig o (.http h) = none := by
  refine patchConfig_none ?_
  rw [specTransport]
  split <;> simp [hg]

theorem bad_port_fails (o : BuildOpts) (h : HttpL) (p : Int) (hp : h.port = some p) (hb : portOk p = false) :
    patchConfig o (.http h) = none := by
  refine patchConfig_none ?_
  rw [specTransport]
  split <;> simp_all

theorem unparsable_port_fails (o : BuildOpts) (h : HttpL) (hp : h.port = none) : patchConfig o (.http h) = none := by
  refine patchConfig_none ?_
  rw [specTransport]
  split <;> simp_all

theorem bad_hours_fail (o : BuildOpts) (pipe : List Nat) (kd : Nat) (raw : List Nat) (h : hoursWord raw = none) :
    patchConfig o (.smb pipe kd raw) = none :=
  patchConfig_none (by simp [specTransport, h])

/-- the option part of a successful build: every field the Demon reads is the operator's choice -/
theorem options_are_chosen (o : BuildOpts) (l : ListenerL) (c : DemonCfg) (h : specCfg o l = some c) :
    c.sleep = o.sleep.toNat ∧ c.jitter = o.jitter.toNat ∧ c.alloc = allocCode o.alloc ∧ c.execute = allocCode o.execute ∧
    c.spawn64 = wide o.spawn64 ∧ c.spawn32 = wide o.spawn32 ∧ c.technique = techniqueCode o.technique ∧
    c.bypass = (if techniqueCode o.technique = 0 then 0 else gadgetCode o.gadget) ∧
    c.stackSpoof = (if techniqueCode o.technique ≠ 0 && o.stackDup then 1 else 0) ∧
    c.proxyLoading = proxyLoadingCode o.proxyLoading ∧ c.sysIndirect = (if o.indirectSyscall then 1 else 0) ∧
    c.amsi = amsiCode o.amsi := by
  obtain ⟨_, t, _, rfl⟩ := specCfg_some h
  exact ⟨rfl, rfl, rfl, rfl, rfl, rfl, rfl, rfl, rfl, rfl, rfl, rfl⟩

/-- end to end: whenever a block is produced, the Demon reads from it exactly the
    configuration the operator chose (`specCfg`), provided it is well-formed (strings of
    scalar values, lists and numbers within their fields: `WfCfg`). -/
theorem payload_is_what_was_chosen (o : BuildOpts) (l : ListenerL) (bs : Bytes) (h : patchConfig o l = some bs) :
    ∃ c, specCfg o l = some c ∧ (WfCfg c → readCfg c.transport.isSmb bs = some (c, [])) := by
  obtain ⟨c, hc, rfl⟩ := Option.map_eq_some_iff.mp h
  exact ⟨c, hc, config_roundtrip c⟩

theorem ite_lt {p : Prop} [Decidable p] {a b n : Nat} (ha : a < n) (hb : b < n) : (if p then a else b) < n := by
  split <;> assumption

theorem allocCode_lt (s : String) : allocCode s < 4294967296 := ite_lt (by decide) (ite_lt (by decide) (by decide))
theorem techniqueCode_lt (s : String) : techniqueCode s < 4294967296 :=
  ite_lt (by decide) (ite_lt (by decide) (ite_lt (by decide) (by decide)))
theorem gadgetCode_lt (s : String) : gadgetCode s < 4294967296 := ite_lt (by decide) (ite_lt (by decide) (by decide))
theorem proxyLoadingCode_lt (s : String) : proxyLoadingCode s < 4294967296 :=
  ite_lt (by decide) (ite_lt (by decide) (ite_lt (by decide) (by decide)))
theorem amsiCode_lt (s : String) : amsiCode s < 4294967296 := ite_lt (by decide) (by decide)

theorem cfgOf_wf (o : BuildOpts) (t : Transport) (hs : inI32 o.sleep = true) (hj : 0 ≤ o.jitter ∧ o.jitter ≤ 100)
    (h64 : StrOk o.spawn64) (h32 : StrOk o.spawn32) (ht : WfT t) : WfCfg (cfgOf o t) := by
  simp only [inI32, Bool.and_eq_true, decide_eq_true_eq] at hs
  exact ⟨by show o.sleep.toNat < _; omega, by show o.jitter.toNat < _; omega, allocCode_lt _, allocCode_lt _,
    wide_wf _ h64, wide_wf _ h32, techniqueCode_lt _, ite_lt (by decide) (gadgetCode_lt _), ite_lt (by decide) (by decide),
    proxyLoadingCode_lt _, ite_lt (by decide) (by decide), amsiCode_lt _, ht⟩

/-- For an SMB payload nothing is left to assume: for all options and every pipe name, kill
    date and working-hours string (strings of Unicode scalar values, kill date below 2^63),
    if the build succeeds the Demon reads exactly the chosen configuration. -/
theorem smb_payload_total (o : BuildOpts) (pipe : List Nat) (kd : Nat) (raw : List Nat) (bs : Bytes)
    (h64 : StrOk o.spawn64) (h32 : StrOk o.spawn32) (hp : StrOk pipe) (hpl : pipe.length < 268435456)
    (hkd : kd < 9223372036854775808)
    (h : patchConfig o (.smb pipe kd raw) = some bs) :
    ∃ c, specCfg o (.smb pipe kd raw) = some c ∧ readCfg true bs = some (c, []) := by
  obtain ⟨c, hc, hr⟩ := payload_is_what_was_chosen o _ bs h
  obtain ⟨⟨hs, hj⟩, t, ht, rfl⟩ := specCfg_some hc
  obtain ⟨w, hw, rfl⟩ := Option.map_eq_some_iff.mp ht
  refine ⟨_, hc, hr (cfgOf_wf o _ hs hj h64 h32 ⟨wide_wf _ (strOk_append _ _ ⟨by decide, by decide⟩ hp ?_), by omega,
    hours_word_fits raw w hw⟩)⟩
  simp [asciiStr]; omega

/-! ### regenerated facts: the model's shape is the code's shape -/

open Gen.DemonConfig in
/-- DemonConfig() reads, in this order (a `*` marks a read inside a counted loop) — the shape of `readCfg` -/
theorem demon_reads_http : readsHttp =
    ["ParserGetInt32", "ParserGetInt32", "ParserGetInt32", "ParserGetInt32", "ParserGetBytes", "ParserGetBytes",
     "ParserGetInt32", "ParserGetInt32", "ParserGetInt32", "ParserGetInt32", "ParserGetInt32", "ParserGetInt32",
     "ParserGetInt64", "ParserGetInt32", "ParserGetBytes", "ParserGetInt32", "ParserGetInt32", "ParserGetBytes*", "ParserGetInt32*",
     "ParserGetInt32", "ParserGetBytes", "ParserGetInt32", "ParserGetBytes*", "ParserGetInt32", "ParserGetBytes*",
     "ParserGetInt32", "ParserGetBytes", "ParserGetBytes", "ParserGetBytes"] := rfl

open Gen.DemonConfig in
theorem demon_reads_smb : readsSmb =
    ["ParserGetInt32", "ParserGetInt32", "ParserGetInt32", "ParserGetInt32", "ParserGetBytes", "ParserGetBytes",
     "ParserGetInt32", "ParserGetInt32", "ParserGetInt32", "ParserGetInt32", "ParserGetInt32", "ParserGetInt32",
     "ParserGetBytes", "ParserGetInt64", "ParserGetInt32"] := rfl

open Gen.DemonConfig in
theorem config_is_little_endian : configParserBigEndian = false := rfl

open Gen.CallSeq in
/-- PatchConfig packs, in source order -/
theorem patchconfig_packs :
    (Builder_PatchConfig.filter fun c => ["AddInt", "AddInt32", "AddInt64", "AddWString", "ParseWorkingHours"].contains c) =
    ["AddInt", "AddInt", "AddInt", "AddInt", "AddWString", "AddWString", "AddInt", "AddInt", "AddInt", "AddInt", "AddInt", "AddInt",
     "AddInt64", "ParseWorkingHours", "AddInt32", "AddWString", "AddInt", "AddInt", "AddInt", "AddInt", "AddWString", "AddInt",
     "AddWString", "AddInt", "AddInt", "AddInt", "AddWString", "AddInt", "AddWString", "AddWString", "AddInt", "AddWString",
     "AddInt", "AddWString", "AddInt", "AddWString", "AddInt", "AddWString", "AddInt", "AddWString", "AddWString", "AddWString",
     "AddInt", "AddWString", "AddInt64", "ParseWorkingHours", "AddInt32"] := by decide +kernel

open Gen.CallSeq in
/-- the service name is matched against the safe pattern before anything is appended to the compiler defines -/
theorem service_name_checked_first :
    ((Builder_PatchConfig.takeWhile (· ≠ "append")).contains "MatchString") = true := by decide +kernel

def lookupC (t : List (String × Nat)) (k : String) : Option Nat := t.lookup k

open Gen.Consts Gen.DemonConfig in
/-- teamserver and Demon agree on the enumerations, and the model's codes are those -/
theorem enums_agree :
    lookupC go_builder "SLEEPOBF_FOLIAGE" = lookupC enums "SLEEPOBF_FOLIAGE" ∧ lookupC enums "SLEEPOBF_FOLIAGE" = some (techniqueCode "Foliage") ∧
    lookupC go_builder "SLEEPOBF_EKKO" = lookupC enums "SLEEPOBF_EKKO" ∧ lookupC enums "SLEEPOBF_EKKO" = some (techniqueCode "Ekko") ∧
    lookupC go_builder "SLEEPOBF_ZILEAN" = lookupC enums "SLEEPOBF_ZILEAN" ∧ lookupC enums "SLEEPOBF_ZILEAN" = some (techniqueCode "Zilean") ∧
    lookupC go_builder "SLEEPOBF_NO_OBF" = lookupC enums "SLEEPOBF_NO_OBF" ∧ lookupC enums "SLEEPOBF_NO_OBF" = some (techniqueCode "WaitForSingleObjectEx") ∧
    lookupC go_builder "SLEEPOBF_BYPASS_JMPRAX" = lookupC enums "SLEEPOBF_BYPASS_JMPRAX" ∧ lookupC enums "SLEEPOBF_BYPASS_JMPRAX" = some (gadgetCode "jmp rax") ∧
    lookupC go_builder "SLEEPOBF_BYPASS_JMPRBX" = lookupC enums "SLEEPOBF_BYPASS_JMPRBX" ∧ lookupC enums "SLEEPOBF_BYPASS_JMPRBX" = some (gadgetCode "jmp rbx") ∧
    lookupC go_builder "PROXYLOADING_RTLREGISTERWAIT" = lookupC enums "PROXYLOAD_RTLREGISTERWAIT" ∧ lookupC enums "PROXYLOAD_RTLREGISTERWAIT" = some (proxyLoadingCode "RtlRegisterWait") ∧
    lookupC go_builder "PROXYLOADING_RTLCREATETIMER" = lookupC enums "PROXYLOAD_RTLCREATETIMER" ∧ lookupC enums "PROXYLOAD_RTLCREATETIMER" = some (proxyLoadingCode "RtlCreateTimer") ∧
    lookupC go_builder "PROXYLOADING_RTLQUEUEWORKITEM" = lookupC enums "PROXYLOAD_RTLQUEUEWORKITEM" ∧ lookupC enums "PROXYLOAD_RTLQUEUEWORKITEM" = some (proxyLoadingCode "RtlQueueWorkItem") ∧
    lookupC go_builder "AMSIETW_PATCH_HWBP" = lookupC enums "AMSIETW_PATCH_HWBP" ∧ lookupC enums "AMSIETW_PATCH_HWBP" = some (amsiCode "Hardware breakpoints") := by decide +kernel

/-! non-vacuity -/
def sampleOpts : BuildOpts :=
  ⟨2, 15, true, "Native/Syscall", "Win32", asciiStr "C:\\n.exe", asciiStr "C:\\m.exe", "Foliage", "jmp rax", true, "RtlCreateTimer", "Hardware breakpoints"⟩

example : (specCfg sampleOpts (.smb (asciiStr "p") 0 [])).map (fun c => (c.technique, c.bypass, c.stackSpoof, c.proxyLoading, c.amsi))
    = some (3, 1, 1, 2, 1) := by decide +kernel

end Havoc.C13
