import HavocVerif.Model.Http
import HavocVerif.Gen.HttpGate
/-
  C12 — An HTTP listener serves only requests that match its profile.
-/
namespace Havoc.C12
open Havoc

/-- Decision logic stated outright: a request reaches the agent protocol exactly when it is a
    POST, its request URI is one of the configured URIs (when any are configured), its
    User-Agent equals the configured one (when configured), and it carries every configured,
    non-ignored request header with the configured value (ASCII case-insensitively). -/
theorem admits_iff (cfg : HttpConfig) (r : HttpReq) :
    admits cfg r = true ↔
      r.method = "POST".toList ∧
      (∀ n v, (n, v) ∈ checkedHeaders cfg → eqFold (r.get n) v = true) ∧
      (urisConfigured cfg = true → r.requestUri ∈ cfg.uris) ∧
      (cfg.userAgent ≠ [] → cfg.userAgent = r.get "User-Agent".toList) := by
  -- `admits` has each "when configured" clause as `not configured || …`; the statement has it as an implication
  simp only [admits, Bool.and_eq_true, beq_iff_eq, headersOk, List.all_eq_true, uriOk, uaOk, Bool.or_eq_true,
    Bool.not_eq_true', Prod.forall, List.contains_eq_mem, decide_eq_true_eq, and_assoc, Decidable.imp_iff_not_or,
    Bool.not_eq_true, ne_eq, Decidable.not_not]

/-- anything that is not a POST never reaches the protocol -/
theorem non_post_rejected (cfg : HttpConfig) (r : HttpReq) (h : r.method ≠ "POST".toList) : admits cfg r = false :=
  Bool.eq_false_iff.mpr fun ha => h ((admits_iff cfg r).mp ha).1

/-- a configured header value is compared in full, whatever it contains after the first ": " -/
theorem header_value_full (n v : Str) (hn : ':' ∉ n) : splitColonSpace (n ++ ':' :: ' ' :: v) = some (n, v) := by
  induction n with
  | nil => rfl
  | cons c cs ih =>
    -- the equation of the last pattern asks that the first two do not match
    rw [List.cons_append, splitColonSpace, ih fun m => hn (by simp [m])]
    · rfl
    · exact fun _ e _ => hn (by simp [e])

/-- every configured response header is sent with its full value (the value may contain colons) -/
theorem response_header_full (n v : Str) (hn : ':' ∉ n) : splitColon (n ++ ':' :: v) = some (n, v) := by
  induction n with
  | nil => rfl
  | cons c cs ih =>
    rw [List.cons_append, splitColon, ih fun m => hn (by simp [m])]
    · rfl
    · exact fun e => hn (by simp [e])

/-- the recorded address is the peer host, or the forwarded-for header only behind a redirector -/
theorem sender_address (cfg : HttpConfig) (r : HttpReq) :
    senderAddress cfg r = if cfg.behindRedir then r.get "X-Forwarded-For".toList else r.peerHost := rfl

theorem forwarded_ignored_without_redir (cfg : HttpConfig) (r : HttpReq) (h : cfg.behindRedir = false) :
    senderAddress cfg r = r.peerHost := by simp [senderAddress, h]

/-! ### The handler as written: statement-level model, refinement, regenerated skeleton -/

theorem headerLoopGo_eq (r : HttpReq) (hs : List Str) :
    headerLoopGo r hs = (hs.filterMap fun h => match splitColonSpace h with
      | some (n, v) => if ignoredHeader n then none else some (n, v)
      | none => none).all fun (n, v) => eqFold (r.get n) v := by
  induction hs with
  | nil => rfl
  | cons h hs ih =>
    unfold headerLoopGo
    cases hsp : splitColonSpace h with
    | none => simp [hsp, ih]
    | some nv =>
      obtain ⟨n, v⟩ := nv
      cases hi : ignoredHeader n
      · simp [hsp, hi, ih, eqFold, Bool.beq_eq_decide_eq]
      · simp [hsp, hi, ih]

theorem uriLoopGo_eq (uri : Str) (us : List Str) : uriLoopGo uri us = us.contains uri := by
  induction us with
  | nil => rfl
  | cons u us ih =>
    by_cases h : uri = u
    · simp [uriLoopGo, h]
    · simp [uriLoopGo, h, ih]

theorem urisGuard_eq (cfg : HttpConfig) :
    (cfg.uris.length > 0 && !(cfg.uris.length == 1 && cfg.uris.head? == some [])) = urisConfigured cfg := by
  unfold urisConfigured
  rcases cfg.uris with _ | ⟨u, _ | ⟨u', us⟩⟩
  · simp
  · by_cases h : u = [] <;> simp [h]
  · simp

/-- guards that all reject the same way: the other outcome needs every one of them to fail -/
theorem guards {α : Type} (a b c : Bool) (x y : α) :
    (if a = true then x else if b = true then x else if c = true then x else y) = if (!a && !b && !c) = true then y else x := by
  cases a <;> cases b <;> cases c <;> rfl

/-- the three guards of `request` are the negations of the three conditions of `admits` -/
theorem requestGo_eq (cfg : HttpConfig) (r : HttpReq) :
    requestGo cfg r = if (headersOk cfg r && uriOk cfg r && uaOk cfg r) = true then .parsed else .fake404 := by
  unfold requestGo
  rw [urisGuard_eq, uriLoopGo_eq, headerLoopGo_eq, guards]
  unfold headersOk checkedHeaders uriOk uaOk
  simp only [bne, Bool.not_and, Bool.not_not, beq_false]
  rfl

theorem serveGo_eq (cfg : HttpConfig) (r : HttpReq) :
    serveGo cfg r = if admits cfg r = true then .parsed else .fake404 := by
  unfold serveGo admits
  rw [requestGo_eq]
  cases r.method == "POST".toList <;> simp

/-- the handler, guard by guard in the order of the source, lets through exactly what `admits` admits: every route
    and every early return is accounted for -/
theorem serveGo_refines (cfg : HttpConfig) (r : HttpReq) :
    (serveGo cfg r = .parsed) ↔ admits cfg r = true := by
  rw [serveGo_eq]; cases admits cfg r <;> simp

/-- a request that is not admitted gets the decoy page and its body never reaches the agent protocol -/
theorem not_admitted_is_decoy (cfg : HttpConfig) (r : HttpReq) (h : admits cfg r = false) :
    serveGo cfg r = .fake404 := by
  rw [serveGo_eq, h]; rfl

def rejects (e : String × String × List String) : Bool := e.2.2 == ["fake404", "return"]

/-- regenerated from http.go on every run, decided on the extracted skeleton: in `request` the three rejecting guards
    (each ends in `fake404; return`) stand in front of every statement that sets a response header, parses the body or
    writes an answer; nothing answers before them; and after the body was handed over the only other way out is the
    decoy -/
theorem guards_dominate :
    (Gen.HttpGate.skeleton.takeWhile rejects).length = 3 ∧
    ((Gen.HttpGate.skeleton.takeWhile rejects).map (·.2.1)) =
      ["valid == false", "len(h.Config.Uris) > 0 && !(len(h.Config.Uris) == 1 && h.Config.Uris[0] == \"\")",
       "h.Config.UserAgent != \"\""] ∧
    ((Gen.HttpGate.skeleton.dropWhile rejects).map (·.2.2)).flatten.head? = some "Header" ∧
    (((Gen.HttpGate.skeleton.dropWhile rejects).map (·.2.2)).flatten.filter (· == "parseAgentRequest")).length = 1 ∧
    Gen.HttpGate.routes = [("POST", ["/*endpoint", "h.request"]), ("GET", ["/*endpoint", "h.fake404"]), ("NoRoute", ["h.fake404"])] := by
  decide +kernel

/-- regenerated: the three checks statement for statement, as `headerLoopGo`, `uriLoopGo` and `requestGo` transcribe them -/
theorem checks_transcribed :
    Gen.HttpGate.inits = ["valid := true", "IgnoreHeaders := [2]string{\"Connection\", \"Accept-Encoding\"}"] ∧
    Gen.HttpGate.headerLoop =
      ["for _, Header := range h.Config.Headers {",
       "NameValue := strings.SplitN(Header, \": \", 2)",
       "if len(NameValue) > 1 {",
       "ignore := false",
       "for _, IgnoreHeader := range IgnoreHeaders {",
       "if strings.ToLower(NameValue[0]) == strings.ToLower(IgnoreHeader) {",
       "ignore = true", "break", "}", "}",
       "if ignore == false {",
       "if strings.ToLower(ctx.Request.Header.Get(NameValue[0])) != strings.ToLower(NameValue[1]) {",
       "MissingHdr = NameValue[0] + \": \" + ctx.Request.Header.Get(NameValue[0])",
       "valid = false", "break", "}", "}", "}", "}"] ∧
    Gen.HttpGate.uriCheck =
      ["if len(h.Config.Uris) > 0 && !(len(h.Config.Uris) == 1 && h.Config.Uris[0] == \"\") {",
       "valid = false",
       "for _, Uri := range h.Config.Uris {",
       "if ctx.Request.RequestURI == Uri {",
       "valid = true", "break", "}", "}",
       "if valid == false {",
       "logger.Warn(fmt.Sprintf(\"got a request with an invalid request path: %s\", ctx.Request.RequestURI))",
       "h.fake404(ctx)", "return", "}", "}"] ∧
    Gen.HttpGate.uaCheck =
      ["if h.Config.UserAgent != \"\" {",
       "if h.Config.UserAgent != ctx.Request.UserAgent() {",
       "logger.Warn(fmt.Sprintf(\"got a request with an invalid user agent: %s\", ctx.Request.UserAgent()))",
       "h.fake404(ctx)", "return", "}", "}"] :=
  ⟨rfl, rfl, rfl, rfl⟩

example : serveGo ⟨["/a".toList], ["X-Tok: a: b".toList, "Connection: close".toList], "UA".toList, [], false⟩
    ⟨"POST".toList, "/a".toList, [("x-tok".toList, "A: B".toList), ("User-Agent".toList, "UA".toList)], "1.2.3.4".toList⟩ = .parsed := by
  decide +kernel
example : serveGo ⟨["/a".toList], [], [], [], false⟩ ⟨"GET".toList, "/a".toList, [], "1.2.3.4".toList⟩ = .fake404 := by decide

/-! non-vacuity -/
example : admits ⟨["/a".toList], ["X-Tok: a: b".toList, "Connection: close".toList], "UA".toList, [], false⟩
    ⟨"POST".toList, "/a".toList, [("x-tok".toList, "A: B".toList), ("User-Agent".toList, "UA".toList)], "1.2.3.4".toList⟩ = true := by
  decide +kernel
example : admits ⟨["/a".toList], ["X-Tok: a: b".toList], [], [], false⟩
    ⟨"POST".toList, "/a".toList, [("x-tok".toList, "a".toList)], "1.2.3.4".toList⟩ = false := by decide +kernel
example : responseHeaders ⟨[], [], [], ["Location: http://x/y".toList], false⟩
    = [("Location".toList, "http://x/y".toList)] := by decide +kernel

end Havoc.C12
