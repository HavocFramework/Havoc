import HavocVerif.Model.Db
import HavocVerif.Lemmas.ListFacts
/-
  C10 — Sessions, links and listeners survive a restart or crash unchanged.
-/
namespace Havoc.C10
open Havoc Gen.SqlSchema

def declOf (table : List (String × String)) (col : String) : Option String := table.lookup col

/-- regenerated: every TS_Agents column that is read back into a Go `string` has TEXT affinity,
    every one read into an integer type has INTEGER affinity -/
theorem agent_columns_affinity :
    agentScanVars.all (fun (col, goType) =>
      match declOf table_TS_Agents col with
      | none => false
      | some decl =>
        if goType = "string" then affinityOf decl = .text
        else affinityOf decl = .integer) = true := by decide +kernel

theorem listener_columns_affinity :
    table_TS_Listeners.all (fun (_, decl) => affinityOf decl = .text) = true := by decide +kernel

theorem link_columns_affinity :
    table_TS_Links.all (fun (_, decl) => affinityOf decl = .integer) = true := by decide

/-- regenerated: INSERT column list, its placeholders and bound values, the SELECT list and the
    Scan targets of AgentAll line up position by position; UPDATE sets every column but the key -/
theorem columns_aligned :
    agentInsertCols = agentSelectCols ∧ agentInsertCols.length = agentInsertPlaceholders ∧
    agentInsertArgs.length = agentInsertPlaceholders ∧
    agentScanVars.map (·.1) = agentSelectCols ∧
    agentInsertCols = table_TS_Agents.map (·.1) ∧
    "AgentID" :: agentUpdateCols = agentInsertCols ∧
    agentUpdateArgs.length = agentUpdateCols.length + 1 ∧
    agentInsertArgs.drop 3 = (agentUpdateArgs.drop 2).dropLast :=
  ⟨rfl, rfl, rfl, rfl, rfl, rfl, rfl, rfl⟩

/-- a TEXT (or BLOB) column returns every string byte for byte -/
theorem text_column_roundtrip (s : String) : loadString (storeString .text s) = s := rfl

/-- … which a column declared `string` (NUMERIC affinity) does not: the reason for the fix -/
theorem string_decl_is_numeric : affinityOf "string" = .numeric := by decide +kernel
theorem numeric_column_alters : storeString (affinityOf "string") "007" = .int 7 := by decide +kernel

/-- every string field of every agent row round-trips through the schema as it is now -/
theorem schema_roundtrip (col goType : String) (h : (col, goType) ∈ agentScanVars) (hs : goType = "string")
    (decl : String) (hd : declOf table_TS_Agents col = some decl) (s : String) :
    loadString (storeString (affinityOf decl) s) = s := by
  have key := agent_columns_affinity
  rw [List.all_eq_true] at key
  have := key (col, goType) h
  simp only [hd, hs, if_true, decide_eq_true_eq] at this
  rw [this]; rfl

/-! ### histories -/

inductive DbOp where
  | agentAdd (id : Nat) (rec : List String)
  | agentUpdate (id : Nat) (active : Bool) (rec : List String)
  | linkAdd (p c : Nat) | linkRemove (p c : Nat)
  | listenerAdd (n p c : String) | listenerRemove (n : String)

def dbStep (d : Db) : DbOp → Db
  | .agentAdd id r => d.agentAdd id r
  | .agentUpdate id a r => d.agentUpdate id a r
  | .linkAdd p c => d.linkAdd p c
  | .linkRemove p c => d.linkRemove p c
  | .listenerAdd n p c => d.listenerAdd n p c
  | .listenerRemove n => d.listenerRemove n

def UniqueIds (d : Db) : Prop := (d.agents.map (·.id)).Nodup ∧ (d.listeners.map (·.1)).Nodup

theorem step_unique (d : Db) (h : UniqueIds d) (op : DbOp) : UniqueIds (dbStep d op) := by
  obtain ⟨ha, hl⟩ := h
  cases op with
  | agentAdd id r =>
    simp only [dbStep, Db.agentAdd]
    split
    · exact ⟨ha, hl⟩
    · rename_i hne
      refine ⟨?_, hl⟩
      rw [List.map_append, List.map_singleton, nodup_concat]
      exact ⟨ha, fun hm => hne ((any_beq_iff_mem_map _ _ _).mpr hm)⟩
  | agentUpdate id a r =>
    -- the rewritten row keeps its id
    refine ⟨?_, hl⟩
    have : (d.agentUpdate id a r).agents.map (·.id) = d.agents.map (·.id) := by
      simp only [Db.agentUpdate, List.map_map]
      exact List.map_congr_left fun x _ => by by_cases e : x.id = id <;> simp [e]
    rw [dbStep, this]; exact ha
  | linkAdd p c => simp only [dbStep, Db.linkAdd]; split <;> exact ⟨ha, hl⟩
  | linkRemove p c => exact ⟨ha, hl⟩
  | listenerAdd n p c =>
    simp only [dbStep, Db.listenerAdd]
    split
    · exact ⟨ha, hl⟩
    · rename_i hne
      refine ⟨ha, ?_⟩
      rw [List.map_append, List.map_singleton, nodup_concat]
      exact ⟨hl, fun hm => hne ((any_beq_iff_mem_map _ _ _).mpr hm)⟩
  | listenerRemove n => exact ⟨ha, hl.sublist (List.Sublist.map _ List.filter_sublist)⟩

/-- one row per agent id and per listener name, after any operation sequence -/
theorem ids_unique (ops : List DbOp) : UniqueIds (ops.foldl dbStep {}) :=
  List.foldlRecOn ops dbStep ⟨by simp, by simp⟩ fun d h op _ => step_unique d h op

/-- dead agents are not restored, active ones are — each with exactly its stored record -/
theorem restore_active_only (d : Db) (id : Nat) (rec : List String) :
    (id, rec) ∈ d.restore.agents ↔ ⟨id, true, rec⟩ ∈ d.agents := by
  simp only [Db.restore, List.mem_map, List.mem_filter]
  constructor
  · rintro ⟨r, ⟨hm, ha⟩, he⟩
    obtain ⟨rid, ract, rrec⟩ := r
    simp at he ha; subst ha; obtain ⟨rfl, rfl⟩ := he; exact hm
  · intro h; exact ⟨_, ⟨h, rfl⟩, rfl⟩

/-- an acknowledged registration is in the database from the moment AgentAdd returns, whatever
    happens afterwards short of an update of that very agent -/
theorem registered_is_restored (d : Db) (id : Nat) (rec : List String) (h : d.agentExist id = false) :
    (id, rec) ∈ (d.agentAdd id rec).restore.agents := by
  rw [restore_active_only]; simp [Db.agentAdd, h]

theorem update_is_restored (d : Db) (id : Nat) (rec : List String) (h : d.agentExist id = true) :
    (id, rec) ∈ (d.agentUpdate id true rec).restore.agents := by
  rw [restore_active_only]
  simp only [Db.agentExist, List.any_eq_true] at h
  obtain ⟨r, hr, he⟩ := h
  simp only [Db.agentUpdate, List.mem_map]
  exact ⟨r, hr, by simp [he]⟩

theorem died_not_restored (d : Db) (id : Nat) (rec rec' : List String) :
    (id, rec') ∉ (d.agentUpdate id false rec).restore.agents := by
  rw [restore_active_only]
  simp only [Db.agentUpdate, List.mem_map, not_exists, not_and]
  intro r _
  split
  · simp
  · rename_i hne; intro e; simp at hne; exact hne (by rw [e])

/-- regenerated: in the new-pivot-agent branch the agent row is written before the link row -/
theorem agent_row_before_link_row : connectNewCalls.takeWhile (· ≠ "LinkAdd") |>.contains "AgentAdd" := by decide

def activeIds (d : Db) : List Nat := (d.agents.filter (·.active)).map (·.id)

theorem dangling_nil_iff (d : Db) :
    d.restore.dangling = [] ↔ ∀ p c, (p, c) ∈ d.links → p ∈ activeIds d → c ∈ activeIds d := by
  simp only [Db.restore, List.filter_eq_nil_iff, activeIds, Prod.forall, Bool.and_eq_true, List.contains_eq_mem,
    decide_eq_true_eq, Bool.not_eq_true', decide_eq_false_iff_not, not_and, Decidable.not_not]

theorem activeIds_agentAdd (d : Db) (c : Nat) (rec : List String) (hc : d.agentExist c = false) :
    activeIds (d.agentAdd c rec) = activeIds d ++ [c] := by
  simp [activeIds, Db.agentAdd, hc, List.filter_append]

theorem agentAdd_no_dangling (d : Db) (c : Nat) (rec : List String) (hd : d.restore.dangling = [])
    (hc : d.agentExist c = false) (hl : ∀ q, (c, q) ∉ d.links) : (d.agentAdd c rec).restore.dangling = [] := by
  rw [dangling_nil_iff] at hd ⊢
  intro x y hm hx
  have hm' : (x, y) ∈ d.links := by simpa [Db.agentAdd, hc] using hm
  rw [activeIds_agentAdd d c rec hc, List.mem_append, List.mem_singleton] at hx ⊢
  exact hx.elim (fun hx => .inl (hd x y hm' hx)) fun hx => absurd hm' (hx ▸ hl y)

theorem linkAdd_no_dangling (d : Db) (p c : Nat) (hd : d.restore.dangling = []) (hc : c ∈ activeIds d) :
    (d.linkAdd p c).restore.dangling = [] := by
  rw [dangling_nil_iff] at hd ⊢
  have hids : activeIds (d.linkAdd p c) = activeIds d := by unfold Db.linkAdd; split <;> rfl
  intro x y hm hx
  rw [hids] at hx ⊢
  unfold Db.linkAdd at hm
  split at hm
  · exact hd x y hm hx
  · rcases List.mem_append.mp hm with hm | hm
    · exact hd x y hm hx
    · rw [(Prod.mk.inj (List.mem_singleton.mp hm)).2]; exact hc

/-- crash consistency of a pivot registration: whichever prefix of its statements made it to
    disk, no reloaded parent gets a link to an agent that is not reloaded -/
theorem connect_new_crash_consistent (d : Db) (p c : Nat) (rec : List String) (n : Nat)
    (hd : d.restore.dangling = []) (hc : d.agentExist c = false) (hl : ∀ q, (c, q) ∉ d.links) :
    (applyStmts d ((connectNewStmts p c rec).take n)).restore.dangling = [] := by
  have hs : connectNewStmts p c rec = [fun d => d.agentAdd c rec, fun d => d.linkAdd p c] := by
    simp [connectNewStmts, connectNewCalls]
  have h1 := agentAdd_no_dangling d c rec hd hc hl
  have h2 := linkAdd_no_dangling _ p c h1 (by simp [activeIds_agentAdd d c rec hc])
  rw [hs]
  match n with
  | 0 => exact hd
  | 1 => exact h1
  | n + 2 => simpa [applyStmts] using h2

/-- with the order the other way round (link row first) the first prefix IS dangling:
    the model distinguishes the two orders (why `agent_row_before_link_row` matters) -/
example : ((({ agents := [⟨1, true, []⟩] } : Db).linkAdd 1 2).restore.dangling) = [(1, 2)] := by decide

end Havoc.C10
