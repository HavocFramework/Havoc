import HavocVerif.Lemmas.Path
import HavocVerif.Lemmas.Locks
import HavocVerif.Model.Loot
/-
  C07 — Loot stays inside the agent's loot folder and equals what was sent.
-/
namespace Havoc.C07
open Havoc

/-- The check the (fixed) loot code performs means containment at the level of path
    components: whatever the name, a path that passes has the directory's cleaned components
    as a component-wise prefix — a sibling whose name merely starts with the directory's
    name does not pass. -/
theorem contained (path dir : Bytes) (hp : path.head? = some slash) (hd : dir.head? = some slash)
    (h : insideDir path dir = true) : (cleanComps dir).2 <+: (cleanComps path).2 :=
  insideDir_components path dir hp hd h

/-- the string-prefix test the code used before the fix accepts a sibling directory
    (`…/Download_evil`): the reason for the fix, as a concrete instance -/
theorem old_check_accepts_sibling :
    hasPrefixB (cleanPath (asciiBytes "/l/agents/id/Download/../Download_evil")) (asciiBytes "/l/agents/id/Download") = true
      ∧ insideDir (asciiBytes "/l/agents/id/Download/../Download_evil") (asciiBytes "/l/agents/id/Download") = false := by
  decide +kernel

/-- an accepted agent id is one path component, not `.` / `..`, without separators or NUL -/
theorem valid_id_component (id : Bytes) (h : validAgentId id = true) :
    NoSlash id ∧ id ≠ [] ∧ id ≠ [dot] ∧ id ≠ [dot, dot] ∧ backslash ∉ id ∧ (0 : UInt8) ∉ id := by
  unfold validAgentId at h
  simp only [decide_eq_true_eq] at h
  obtain ⟨h1, h2, h3, h4, h5, h6⟩ := h
  refine ⟨?_, h1, h2, h3, ?_, ?_⟩
  · intro m; exact h4 (by simpa using m)
  · intro m; exact h5 (by simpa using m)
  · intro m; exact h6 (by simpa using m)

/-- the directory `DownloadAdd` makes (with everything missing on the way) is the cleaned target, and that lies inside the
    agent's Download directory: nothing is made outside it, whatever `..` the reported name walks through -/
theorem downloadAdd_makes_inside (agentsDir : List Bytes) (a : LootAgent) (name : Bytes)
    (h : insideDir (dlTarget agentsDir a name) (dlDirStr agentsDir a) = true) :
    (cleanComps (dlDirStr agentsDir a)).2 <+: (cleanComps (dlTarget agentsDir a name)).2 :=
  insideDir_components _ _ (by simp [dlTarget, dlDirStr]) (by simp [dlDirStr]) h

/-- every download that `DownloadAdd` opens writes to a file directly below a directory that
    lies inside the agent's Download directory -/
theorem downloadAdd_contained (agentsDir : List Bytes) (fs : Fs) (a : LootAgent) (fid : Nat) (name : Bytes)
    (h : (downloadAdd agentsDir fs a fid name).2.2 = true) :
    ∃ d ∈ (downloadAdd agentsDir fs a fid name).2.1.downloads,
      (cleanComps (dlDirStr agentsDir a)).2 <+: d.path.dropLast := by
  -- every branch but the last returns `false`
  revert h
  unfold downloadAdd
  split
  · intro h; cases h
  rename_i hin
  split
  · intro h; cases h
  split
  · intro h; cases h
  dsimp only
  split
  · intro h; cases h
  intro _
  refine ⟨_, List.mem_append_right _ (List.mem_singleton.mpr rfl), ?_⟩
  rw [List.dropLast_concat]
  exact downloadAdd_makes_inside agentsDir a name (by simpa using hin)

/-- chunks for unknown or closed file ids are written nowhere -/
theorem stray_write_inert (fs : Fs) (a : LootAgent) (fid : Nat) (data : Bytes)
    (h : a.downloads.find? (·.fileId == fid) = none) :
    downloadWrite fs a fid data = (fs, a, false) := by
  simp [downloadWrite, h]

/-- writing chunk after chunk through one handle that starts at the end of the file appends -/
def writeSeq (fs : Fs) (p : List Bytes) : Nat → List Bytes → Fs
  | _, [] => fs
  | off, c :: cs => writeSeq (fs.writeAt p off c) p (off + c.length) cs

theorem get_set_same (fs : Fs) (p : List Bytes) (n : Node) : (fs.set p n).get p = some n := by
  simp [Fs.set, Fs.get]

/-- a file's content is exactly the concatenation, in arrival order, of the chunks written
    through its handle (no other handle on the same file) -/
theorem content_exact (fs : Fs) (p : List Bytes) (content : Bytes) (chunks : List Bytes)
    (h : fs.get p = some (.file content)) :
    (writeSeq fs p content.length chunks).get p = some (.file (content ++ chunks.flatten)) := by
  induction chunks generalizing fs content with
  | nil => simpa [writeSeq] using h
  | cons c cs ih =>
    simp only [writeSeq, List.flatten_cons]
    have hw : (fs.writeAt p content.length c).get p = some (.file (content ++ c)) := by
      simp only [Fs.writeAt, h, Nat.le_refl, if_true, List.take_length]
      rw [get_set_same]
      simp
    have := ih (fs.writeAt p content.length c) (content ++ c) hw
    simpa [List.append_assoc] using this

/-! non-vacuity / model tests -/
example : insideDir (asciiBytes "/l/a/id/Download/sub/../x") (asciiBytes "/l/a/id/Download") = true := by decide +kernel
example : insideDir (asciiBytes "/l/a/id/Download/../../other/Download") (asciiBytes "/l/a/id/Download") = false := by decide +kernel
example : validAgentId (asciiBytes "0000beef") = true ∧ validAgentId (asciiBytes "../x") = false
    ∧ validAgentId (asciiBytes "..") = false := by decide

/-- regenerated (`Gen.TableWrites`): every assignment to these tables anywhere in the teamserver is an append at the end,
    a delete of one index, the hand-out split, `nil` / an empty literal, or a slice built up freshly in a local - never a
    re-slice to length 0 or a filter in place, whose later appends would overwrite what an earlier reader still holds.
    The models' immutable lists are faithful to the Go slices only under this fact. -/
theorem downloads_writes_value_like :
    aliasingWrites ["Downloads"] = [] ∧ writtenTables ["Downloads"] = ["Downloads"] ∧ Gen.TableWrites.reslicesToZero = [] :=
  ⟨aliasingWrites_eq_nil _, by decide, rfl⟩

end Havoc.C07
