import HavocVerif.Lemmas.Frame
import HavocVerif.Model.TaskTable
import HavocVerif.Model.Queue
import HavocVerif.Gen.JobCodec
import HavocVerif.Gen.SrcLines
/-
  C02 — An operator's task reaches the agent exactly as issued.
-/
namespace Havoc.C02
open Havoc

/-- regenerated fact: the Demon's task loop goes on while at least one frame header is left -/
theorem loop_continues (n : Nat) (h : n ≥ 12) : Gen.Demon.dispatcherContinue n = true :=
  Havoc.loop_continues n h

theorem loop_stops : Gen.Demon.dispatcherContinue 0 = false := Havoc.loop_stops

/-- regenerated fact: a frame is read as command, request id, length-prefixed body, and
    the body is decrypted with the session key/IV before the handler runs -/
theorem frame_reads :
    Gen.Demon.dispatcherFrameReads = ["ParserGetInt32", "ParserGetInt32", "ParserGetBytes"]
    ∧ Gen.Demon.dispatcherDecryptsTask = true
    ∧ Gen.Demon.dispatcherSkipConst = "DEMON_COMMAND_NO_JOB" := by decide

/-- the Demon's reader widths are the ones the model uses -/
theorem parser_widths :
    Gen.Demon.parserWidths = [("ParserGetBool", 4), ("ParserGetByte", 1), ("ParserGetInt16", 2),
      ("ParserGetInt32", 4), ("ParserGetInt64", 8)] := by decide

/-- Go and C agree on the ids both sides of the wire use -/
theorem consts_agree :
    [("COMMAND_GET_JOB", "DEMON_COMMAND_GET_JOB"), ("COMMAND_NOJOB", "DEMON_COMMAND_NO_JOB"),
     ("COMMAND_CHECKIN", "DEMON_COMMAND_CHECKIN"), ("COMMAND_SLEEP", "DEMON_COMMAND_SLEEP"),
     ("COMMAND_PROC", "DEMON_COMMAND_PROC"), ("COMMAND_PROC_LIST", "DEMON_COMMAND_PROC_LIST"),
     ("COMMAND_FS", "DEMON_COMMAND_FS"), ("COMMAND_INLINEEXECUTE", "DEMON_COMMAND_INLINE_EXECUTE"),
     ("COMMAND_JOB", "DEMON_COMMAND_JOB"), ("COMMAND_INJECT_DLL", "DEMON_COMMAND_INJECT_DLL"),
     ("COMMAND_INJECT_SHELLCODE", "DEMON_COMMAND_INJECT_SHELLCODE"),
     ("COMMAND_SPAWNDLL", "DEMON_COMMAND_SPAWN_DLL"), ("COMMAND_TOKEN", "DEMON_COMMAND_TOKEN"),
     ("COMMAND_ASSEMBLY_INLINE_EXECUTE", "DEMON_COMMAND_ASSEMBLY_INLINE_EXECUTE"),
     ("COMMAND_ASSEMBLY_LIST_VERSIONS", "DEMON_COMMAND_ASSEMBLY_VERSIONS"),
     ("COMMAND_NET", "DEMON_COMMAND_NET"), ("COMMAND_CONFIG", "DEMON_COMMAND_CONFIG"),
     ("COMMAND_SCREENSHOT", "DEMON_COMMAND_SCREENSHOT"), ("COMMAND_PIVOT", "DEMON_COMMAND_PIVOT"),
     ("COMMAND_TRANSFER", "DEMON_COMMAND_TRANSFER"), ("COMMAND_SOCKET", "DEMON_COMMAND_SOCKET"),
     ("COMMAND_KERBEROS", "DEMON_COMMAND_KERBEROS"), ("COMMAND_MEM_FILE", "DEMON_COMMAND_MEM_FILE"),
     ("COMMAND_EXIT", "DEMON_EXIT"), ("DEMON_INIT", "DEMON_INITIALIZE"),
     ("DEMON_MAGIC_VALUE", "DEMON_MAGIC_VALUE"),
     ("DEMON_PIVOT_SMB_COMMAND", "DEMON_PIVOT_SMB_COMMAND"),
     ("DEMON_PIVOT_SMB_CONNECT", "DEMON_PIVOT_SMB_CONNECT"),
     ("DEMON_PIVOT_SMB_DISCONNECT", "DEMON_PIVOT_SMB_DISCONNECT")].all
      (fun (g, c) => (Gen.Consts.go_agent.lookup g).isSome
        && Gen.Consts.go_agent.lookup g == Gen.Consts.demon.lookup c) = true := by decide +kernel

/-- per-task encryption is an involution and keeps lengths, for every keystream -/
theorem xcrypt_involutive (ks : KeyStream) (bs : Bytes) : xcrypt ks (xcrypt ks bs) = bs :=
  Havoc.xcrypt_involutive ks bs

theorem xcrypt_length (ks : KeyStream) (bs : Bytes) : (xcrypt ks bs).length = bs.length :=
  Havoc.xcrypt_length ks bs

/-- Read the way the Demon reads them, the bytes of any non-empty batch yield exactly
    the issued (command, request id, body) sequence — every batch size, every argument
    list, every keystream. -/
theorem frame_roundtrip (ks : KeyStream) (j : Job) (js : List Job) (h : ∀ x ∈ j :: js, x.wf) :
    demonDispatch ks (buildPayload ks (j :: js)) = some ((j :: js).map Job.view) :=
  dispatch_roundtrip ks j js h

/-- a no-job reply is read as "nothing to do" -/
theorem nojob_roundtrip (ks : KeyStream) : demonDispatch ks (buildPayload ks [noJob]) = some [] := by
  rw [dispatch_buildPayload ks noJob [] (by decide)]
  rfl

/-- arguments come out in the order and with the values issued when the handler reads
    them with the matching kinds -/
theorem args_roundtrip (args : List Arg) (h : ∀ a ∈ args, a.wf) :
    demonRead (args.map Arg.ckind) (args.flatMap Arg.encode) = some (args.map Arg.cview, []) := by
  simpa using demonRead_args args [] h

/-- nothing of a task body is sent in clear: the bytes after a frame's 12-byte header
    are exactly the body xored with the keystream from offset 0 -/
theorem body_under_keystream (ks : KeyStream) (j : Job) (h : j.wf) :
    (j.frame ks).drop 12 = xcrypt ks j.body := by
  rw [Job.frame_eq ks j h.1 h.2.1 h.2.2.1, ← List.append_assoc, ← List.append_assoc,
    List.drop_left' (by simp)]

/-! non-vacuity -/
example : (⟨11, 7, [.int 5, .str [104, 105], .bool true]⟩ : Job).wf := by
  refine ⟨by decide, by decide, by decide, by decide⟩
example : ∀ a ∈ [Arg.int 5, .str [104, 105], .bytes [], .uint64 (2^64 - 1)], a.wf := by
  intro a ha; simp at ha; rcases ha with rfl | rfl | rfl | rfl <;> simp [Arg.wf, cstr, endsWithNul]

/-! ### the operator's commands, as the Demon's handlers read them -/
section TaskTable
open Havoc.TaskTable

/-- (regenerated) the reads the table relies on, command by command: the sub-command first where the handler has
    a switch, then exactly the parameters the operator gives, in the handler's order -/
theorem table_kinds :
    (table.map fun e => (e.name, e.kinds)) =
      [("sleep", some [.int32, .int32]),
       ("fs.cd", some [.int32, .bytes]), ("fs.remove", some [.int32, .bytes]), ("fs.mkdir", some [.int32, .bytes]),
       ("fs.download", some [.int32, .bytes]), ("fs.cat", some [.int32, .bytes]),
       ("fs.cp", some [.int32, .bytes, .bytes]), ("fs.mv", some [.int32, .bytes, .bytes]), ("fs.pwd", some [.int32]), ("fs.upload", some [.int32, .bytes, .int32]),
       ("proc.kill", some [.int32, .int32]), ("proc.modules", some [.int32, .int32]), ("proc.grep", some [.int32, .bytes]),
       ("job.list", some [.int32]), ("job.suspend", some [.int32, .int32]), ("job.resume", some [.int32, .int32]), ("job.kill", some [.int32, .int32]),
       ("token.impersonate", some [.int32, .int32]), ("token.remove", some [.int32, .int32]),
       ("pivot.connect", some [.int32, .bytes]), ("pivot.disconnect", some [.int32, .int32]),
       ("transfer.list", some [.int32]), ("transfer.stop", some [.int32, .int32]), ("transfer.resume", some [.int32, .int32]), ("transfer.remove", some [.int32, .int32]),
       ("exit.thread", some [.int32]), ("exit.process", some [.int32]), ("proclist", some [.int32]),
       ("config.verbose", some [.int32, .int32]), ("config.coffee.veh", some [.int32, .int32]), ("config.coffee.threaded", some [.int32, .int32]),
       ("config.sleep-technique", some [.int32, .int32]), ("config.memory.alloc", some [.int32, .int32]), ("config.memory.execute", some [.int32, .int32]),
       ("config.inject.technique", some [.int32, .int32]), ("config.spawn64", some [.int32, .bytes]), ("config.spawn32", some [.int32, .bytes]),
       ("config.killdate", some [.int32, .int64]),
       ("kerb.luid", some [.int32]), ("kerb.klist", some [.int32, .int32, .int32]), ("kerb.purge", some [.int32, .int32]), ("kerb.ptt", some [.int32, .bytes, .int32]),
       ("config.workinghours", some [.int32, .int32])] := by decide +kernel

/-- (regenerated) every operator command of the table is served by a handler the Demon's dispatch table knows,
    under a command id its headers define, and every read of that handler (before its switch and in the case)
    is one of the parser functions the model gives a width to -/
theorem table_resolves : table.all (fun e => e.commandId.isSome && e.kinds.isSome) = true := by
  -- the reads are known from `table_kinds`; only the command ids are looked up here
  have hk : table.all (fun e => e.kinds.isSome) = true := by
    simpa [List.all_map] using congrArg (List.all · (·.2.isSome)) table_kinds
  have hc : table.all (fun e => e.commandId.isSome) = true := by decide +kernel
  simp only [List.all_eq_true, Bool.and_eq_true] at hk hc ⊢
  exact fun e he => ⟨hc e he, hk e he⟩

/-- a logon session id is read in base 16 whether or not it starts with 0x: "10" is sixteen, "0x3e7" and "3e7" are 999 -/
example : luid [49, 48] = some 16 ∧ luid [48, 120, 51, 101, 55] = some 999 ∧ luid [51, 101, 55] = some 999 ∧ luid [48, 49, 50] = some 18 := by decide

/-- the working hours word a `config workinghours` task must carry: every field in its own bits (the end minute needs six) -/
example : (find "config.workinghours").bind (fun e => e.expect [[57, 58, 51, 48, 45, 49, 55, 58, 52, 53]]) =   -- "9:30-17:45"
    some [.int32 (4194304 + 9 * 131072 + 30 * 2048 + 17 * 64 + 45)] := by decide +kernel


/- the wide string the Demon must receive for a parameter outside the BMP: surrogate pairs, NUL terminator -/
example : wstr [0xF0, 0x9F, 0x93, 0x81] = some (.bytes [0x3D, 0xD8, 0xC1, 0xDC, 0, 0]) := by
  decide +kernel

/-- (regenerated) an in-memory file reaches the Demon as (id, total size, chunk) -/
theorem memfile_reads :
    (Gen.DemonHandlers.reads.find? (fun r => r.1 == "CommandMemFile" && r.2.1 == "")).map (·.2.2) =
      some ["ParserGetInt32", "ParserGetInt64", "ParserGetBytes"] := by decide +kernel

end TaskTable

/-! ### The argument encoder of `BuildPayloadMessage`, regenerated from agent.go on every run -/

/-- the number of bytes one argument adds to `DataPayload`, read from the extracted table: the buffers made, plus the
    argument itself where the case appends twice (length prefix, then the bytes) -/
def tableEncodeLen (a : Arg) : Option Nat :=
  (Gen.JobCodec.encodeCases.find? (·.1 == a.goType)).map fun (_, mk, _, ap) =>
    mk.sum + if ap == 2 then (match a with | .str s => (cstr s).length | .bytes b => b.length | _ => 0) else 0

theorem encode_length_is_source_table (a : Arg) : tableEncodeLen a = some (a.encode).length := by
  cases a <;> simp [tableEncodeLen, Gen.JobCodec.encodeCases, Arg.goType, Arg.encode] <;> omega

def putWidth : String → Nat
  | "PutUint16" => 2 | "PutUint32" => 4 | "PutUint64" => 8 | _ => 0

/-- every `binary.LittleEndian.Put*` call of the encoder writes exactly the buffer its case made (little endian, full
    width), and the only case without one is the single byte -/
theorem put_fills_buffer :
    Gen.JobCodec.encodeCases.all (fun (t, mk, puts, _) =>
      (puts.all fun f => [putWidth f] == mk) && (puts.isEmpty == (t == "byte"))) = true := by decide

/-- the string case (terminator added unless present, length prefix counts it), the byte-string case, and the frame:
    command, request id, body length, then the body encrypted in one call of its own and only when it is not empty -/
theorem encoder_transcribed :
    Gen.JobCodec.encodeString =
      ["var size = make([]byte, 4)", "str := job.Data[i].(string)",
       "if strings.HasSuffix(str, \"\\x00\") == false { str += \"\\x00\" }",
       "binary.LittleEndian.PutUint32(size, uint32(len(str)))",
       "DataPayload = append(DataPayload, size...)", "DataPayload = append(DataPayload, []byte(str)...)", "break"] ∧
    Gen.JobCodec.encodeBytes =
      ["var size = make([]byte, 4)", "binary.LittleEndian.PutUint32(size, uint32(len(job.Data[i].([]byte))))",
       "DataPayload = append(DataPayload, size...)", "DataPayload = append(DataPayload, job.Data[i].([]byte)...)", "break"] ∧
    Gen.JobCodec.encodeAfterArgs =
      ["binary.LittleEndian.PutUint32(DataCommandID, job.Command)",
       "PayloadPackage = append(PayloadPackage, DataCommandID...)",
       "binary.LittleEndian.PutUint32(RequestID, job.RequestID)",
       "PayloadPackage = append(PayloadPackage, RequestID...)",
       "binary.LittleEndian.PutUint32(PayloadPackageSize, uint32(len(DataPayload)))",
       "PayloadPackage = append(PayloadPackage, PayloadPackageSize...)",
       "if len(DataPayload) > 0 { DataPayload = crypt.XCryptBytesAES256(DataPayload, AesKey, AesIv) PayloadPackage = append(PayloadPackage, DataPayload...) DataPayload = nil }"] ∧
    Gen.JobCodec.encodeTail = ["return PayloadPackage"] :=
  ⟨rfl, rfl, rfl, rfl⟩

example : tableEncodeLen (.str [104, 105]) = some 7 ∧ tableEncodeLen (.str [104, 0]) = some 6 ∧
    tableEncodeLen (.byte 3) = some 1 := by decide

/-- regenerated from pkg/common/util.go and pkg/common/crypt/aes.go on every run: wide and narrow string parameters get
    their terminator unless they end in one and are encoded by x/text's UTF-16LE encoder (surrogate pairs for characters
    beyond the BMP: `encodeUTF16LE`) resp. taken as they are; `XCryptBytesAES256` makes a NEW CTR stream from the key and
    the IV on every call (`xcrypt ks` restarts at offset 0 for every task body) and writes into a buffer of its own -/
theorem string_and_crypt_transcribed :
    Gen.SrcLines.encodeUTF16 =
      ["EncodeUTF16(s string) []byte",
       "var err error",
       "if strings.HasSuffix(s, \"\\x00\") == false { s += \"\\x00\" }",
       "uni := unicode.UTF16(unicode.LittleEndian, unicode.IgnoreBOM)",
       "encoded, err := uni.NewEncoder().String(s)",
       "if err != nil { logger.Error(\"Failed to convert UTF8 to UTF16\") return []byte(\"\") }",
       "return []byte(encoded)"] ∧
    Gen.SrcLines.encodeUTF8 =
      ["EncodeUTF8(s string) []byte",
       "if strings.HasSuffix(s, \"\\x00\") == false { s += \"\\x00\" }",
       "return []byte(s)"] ∧
    Gen.SrcLines.xcryptBytesAES256 =
      ["XCryptBytesAES256(XBytes []byte, AESKey []byte, AESIv []byte) []byte",
       "var ( ReverseXBytes = make([]byte, len(XBytes)) )",
       "block, err := aes.NewCipher(AESKey)",
       "if err != nil { logger.Error(\"Decryption Error: \" + err.Error()) return []byte{} }",
       "stream := cipher.NewCTR(block, AESIv)",
       "stream.XORKeyStream(ReverseXBytes, XBytes)",
       "return ReverseXBytes"] :=
  ⟨rfl, rfl, rfl⟩

end Havoc.C02
