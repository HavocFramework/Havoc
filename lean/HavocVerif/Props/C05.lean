import HavocVerif.Model.Tasks
import HavocVerif.Gen.Dispatch
/-
  C05 — Only callbacks to outstanding tasks have any effect.
-/
namespace Havoc.C05
open Havoc

/-- An unsolicited, non-exempt callback changes nothing: no effect, no state change. -/
theorem unsolicited_inert (sendLogs : Bool) (s : TState) (a r c : Nat) (final : Bool)
    (h : isKnown sendLogs (s.tasks a) r c = false) :
    tstep sendLogs s (.callback a r c final) = s := by
  simp [tstep, h]

/-- how many times `r` was issued to `a` minus how many final callbacks consumed it -/
def outstanding (s : TState) (a r : Nat) : Nat := (s.tasks a).count r

theorem mem_tstep_effects (sendLogs : Bool) (s : TState) (op : TOp) (e : Effect)
    (h : e ∈ (tstep sendLogs s op).effects) :
    e ∈ s.effects ∨ ∃ fin, op = .callback e.agent e.req e.cmd fin ∧
      isKnown sendLogs (s.tasks e.agent) e.req e.cmd = true := by
  cases op with
  | issue a r => exact .inl h
  | callback a r c final =>
    simp only [tstep] at h
    split at h
    · next hk =>
      rcases List.mem_append.mp h with h | h
      · exact .inl h
      · cases List.mem_singleton.mp h
        exact .inr ⟨final, rfl, hk⟩
    · exact .inl h

/-- Every effect ever produced, over any history on any number of agents, was produced
    for an exempt kind or while the id was outstanding for that same agent. -/
theorem effect_implies_known (sendLogs : Bool) (ops : List TOp) :
    ∀ (s : TState), ∀ e ∈ (ops.foldl (tstep sendLogs) s).effects,
      e ∈ s.effects ∨ exemptCmd sendLogs e.cmd = true ∨
        ∃ pre : List TOp, ∃ post : List TOp, ∃ fin : Bool, ops = pre ++ TOp.callback e.agent e.req e.cmd fin :: post ∧
          ((pre.foldl (tstep sendLogs) s).tasks e.agent).contains e.req = true := by
  induction ops with
  | nil => exact fun s e he => .inl he
  | cons op ops ih =>
    intro s e he
    rcases ih (tstep sendLogs s op) e he with h | h | ⟨pre, post, fin, hops, hk⟩
    · rcases mem_tstep_effects sendLogs s op e h with h | ⟨fin, rfl, hk⟩
      · exact .inl h
      · rcases Bool.or_eq_true_iff.mp hk with hx | hc
        · exact .inr (.inl hx)
        · exact .inr (.inr ⟨[], ops, fin, rfl, hc⟩)
    · exact .inr (.inl h)
    · exact .inr (.inr ⟨op :: pre, post, fin, congrArg (op :: ·) hops, hk⟩)

/-- ids are per agent: issuing to one agent never makes the id known to another -/
theorem issue_other_agent (sendLogs : Bool) (s : TState) (a b r : Nat) (h : a ≠ b) :
    (tstep sendLogs s (.issue a r)).tasks b = s.tasks b := by
  simp [tstep, Ne.symm h]

/-- once the final callback has been processed the id is forgotten (one outstanding copy) -/
theorem completed_forgotten (sendLogs : Bool) (s : TState) (a r c : Nat)
    (hk : isKnown sendLogs (s.tasks a) r c = true) (h1 : (s.tasks a).count r ≤ 1)
    (c' : Nat) (hne : exemptCmd sendLogs c' = false) :
    isKnown sendLogs ((tstep sendLogs s (.callback a r c true)).tasks a) r c' = false := by
  have hs : (tstep sendLogs s (.callback a r c true)).tasks a = (s.tasks a).erase r := by
    simp [tstep, hk, requestCompleted]
  rw [hs]
  simp only [isKnown, hne, Bool.false_or]
  rw [List.contains_eq_mem, decide_eq_false_iff_not, ← List.count_pos_iff, List.count_erase_self]
  omega

/-- a non-final callback leaves the id outstanding -/
theorem nonfinal_keeps (sendLogs : Bool) (s : TState) (a r c : Nat) :
    (tstep sendLogs s (.callback a r c false)).tasks a = s.tasks a := by
  simp only [tstep]
  split <;> simp

/-- regenerated: the exempt kinds are exactly COMMAND_SOCKET, COMMAND_PIVOT and (with log
    forwarding) BEACON_OUTPUT, with the ids of commands.go -/
theorem exempt_ids : Gen.Consts.COMMAND_SOCKET = 2540 ∧ Gen.Consts.COMMAND_PIVOT = 2520 ∧
    Gen.Consts.BEACON_OUTPUT = 94 := by decide

/-! ### The gate as written: statement-level model, refinement, and the regenerated source lines -/

theorem knownLoop_eq_contains (ts : List Nat) (r : Nat) : knownLoop ts r = ts.contains r := by
  induction ts with
  | nil => rfl
  | cons t ts ih =>
    rw [knownLoop, ih, List.contains_cons, Bool.if_true_left, Bool.decide_eq_true, BEq.comm]

/-- `IsKnownRequestID`, statement by statement, decides exactly what the model's `isKnown` decides -/
theorem isKnownGo_refines (sendLogs : Bool) (ts : List Nat) (r c : Nat) :
    isKnownGo sendLogs ts r c = isKnown sendLogs ts r c := by
  simp only [isKnownGo, isKnown, exemptCmd, knownLoop_eq_contains, Bool.if_true_left, Bool.or_assoc,
    Bool.decide_eq_true]

/-- `RequestCompleted`, as the slice expression it is, removes the first occurrence and nothing else -/
theorem completedGo_refines (ts : List Nat) (r : Nat) : completedGo ts r = requestCompleted ts r := by
  unfold completedGo requestCompleted
  induction ts with
  | nil => rfl
  | cons t ts ih =>
    by_cases h : t = r
    · simp [firstIdx, h]
    · rw [List.erase_cons_tail (by simpa using h), ← ih]
      simp only [firstIdx, beq_iff_eq, h, if_false]
      cases firstIdx ts r <;> rfl

/-- ids the loop does not stop at are untouched, in order: completion never retires another task's id -/
theorem completedGo_keeps_others (ts : List Nat) (r q : Nat) (h : q ≠ r) :
    (completedGo ts r).count q = ts.count q := by
  rw [completedGo_refines]
  exact List.count_erase_of_ne h

/-- `AddRequest` appends: the id becomes known, nothing else changes -/
theorem addRequestGo_known (sendLogs : Bool) (ts : List Nat) (r c : Nat) :
    isKnownGo sendLogs (addRequestGo ts r) r c = true := by
  rw [isKnownGo_refines]
  simp [isKnown, addRequestGo]

/-- regenerated from agent.go on every run: the three functions are, statement for statement, the lines the
    statement-level model above transcribes (`knownLoop`, `isKnownGo`, `firstIdx`/`completedGo`, `addRequestGo`) -/
theorem gate_source_transcribed :
    Gen.Dispatch.src_IsKnownRequestID =
      ["IsKnownRequestID(teamserver TeamServer, RequestID uint32, CommandID uint32) bool",
       "switch CommandID { case COMMAND_SOCKET: return true case COMMAND_PIVOT: return true }",
       "if teamserver.SendLogs() && CommandID == BEACON_OUTPUT { return true }",
       "a.JobMtx.Lock()",
       "defer a.JobMtx.Unlock()",
       "for i := range a.Tasks { if a.Tasks[i].RequestID == RequestID { return true } }",
       "return false"] ∧
    Gen.Dispatch.src_AddRequest =
      ["AddRequest(job Job) []Job",
       "a.JobMtx.Lock()",
       "defer a.JobMtx.Unlock()",
       "a.Tasks = append(a.Tasks, job)",
       "return a.Tasks"] ∧
    Gen.Dispatch.src_RequestCompleted =
      ["RequestCompleted(RequestID uint32)",
       "a.JobMtx.Lock()",
       "defer a.JobMtx.Unlock()",
       "for i := range a.Tasks { if a.Tasks[i].RequestID == RequestID { a.Tasks = append(a.Tasks[:i], a.Tasks[i+1:]...) break } }"] :=
  ⟨rfl, rfl, rfl⟩

/-- regenerated from demons.go: in `TaskDispatch` nothing but the computation of the agent's numeric id (for the log
    line) is evaluated before the gate, the gate tests this callback's own id and command, its refusing branch ends
    in a bare `return`, and the command switch comes only after it -/
theorem gate_first :
    Gen.Dispatch.dispatchSig = "(RequestID uint32, CommandID uint32, Parser *parser.Parser, teamserver TeamServer)" ∧
    Gen.Dispatch.preSwitch = ["var NameID, _ = strconv.ParseInt(a.NameID, 16, 64)", "AgentID := int(NameID)", "gate"] ∧
    Gen.Dispatch.preGateCalls = ["ParseInt", "int"] ∧
    Gen.Dispatch.gateCond = "a.IsKnownRequestID(teamserver, RequestID, CommandID) == false" ∧
    Gen.Dispatch.gateBodyEndsInReturn = true ∧
    Gen.Dispatch.switchTag = "CommandID" :=
  ⟨rfl, rfl, rfl, rfl, rfl, rfl⟩

/-- regenerated: every completion in pkg/agent is `a.RequestCompleted(RequestID)` inside `TaskDispatch`, where neither
    `a` nor `RequestID` is ever re-bound: a callback can only retire the id it carries, on the agent it came from;
    and no code outside the three gate functions writes an agent's `Tasks` -/
theorem completion_retires_own_id :
    Gen.Dispatch.completedCalls = [("TaskDispatch", "a|RequestID")] ∧
    Gen.Dispatch.rebound = [] ∧ Gen.Dispatch.tasksWrites = [] :=
  ⟨rfl, rfl, rfl⟩

/-- regenerated: the command kinds whose handlers never retire an id are the pure output kinds -/
theorem silent_cases :
    (Gen.Dispatch.caseCompletes.filter (·.2 == 0)).map (·.1) =
      ["COMMAND_GET_JOB", "COMMAND_OUTPUT", "BEACON_OUTPUT", "COMMAND_PACKAGE_DROPPED", "default"] := by decide +kernel

example : completedGo [4, 7, 9, 7] 7 = [4, 9, 7] ∧ completedGo [4, 9] 7 = [4, 9] := by decide
example : isKnownGo false [4, 7] 7 11 = true ∧ isKnownGo false [4, 7] 8 11 = false ∧
    isKnownGo false [] 8 Gen.Consts.COMMAND_SOCKET = true ∧ isKnownGo false [] 8 Gen.Consts.BEACON_OUTPUT = false ∧
    isKnownGo true [] 8 Gen.Consts.BEACON_OUTPUT = true := by decide

/-! non-vacuity -/
example : (trun false [.issue 1 7, .callback 2 7 11 true, .callback 1 7 11 true, .callback 1 7 11 true]).effects
    = [⟨1, 7, 11⟩] := by decide

end Havoc.C05
