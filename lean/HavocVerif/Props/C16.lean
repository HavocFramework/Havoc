import HavocVerif.Model.Registry
import HavocVerif.Gen.CallSeq
import HavocVerif.Gen.LockFacts
import HavocVerif.Lemmas.Locks
import HavocVerif.Lemmas.ListFacts
/-
  C16 — Listener and service registries never hold duplicates or leftovers.
-/
namespace Havoc.C16
open Havoc

/-! ### the running set and its built-in part, as functions of `Reg.mem` -/

theorem removeFirstName_eq_filter (n : String) : ∀ (l : List (String × LKind)), (l.map (·.1)).Nodup →
    removeFirstName n l = l.filter (fun x => x.1 ≠ n)
  | [], _ => rfl
  | x :: xs, h => by
    have ⟨hx, hxs⟩ := List.nodup_cons.mp h
    by_cases e : x.1 = n
    · -- no later entry has this name
      have keep : xs.filter (fun y => y.1 ≠ n) = xs := List.filter_eq_self.mpr fun y hy => by
        simpa using fun q : y.1 = n => hx (List.mem_map.mpr ⟨y, hy, q.trans e.symm⟩)
      rw [List.filter_cons_of_neg (by simpa using e), keep]
      simp [removeFirstName, e]
    · rw [List.filter_cons_of_pos (by simpa using e), ← removeFirstName_eq_filter n xs hxs]
      simp [removeFirstName, e]

theorem has_iff (r : Reg) (n : String) : r.has n = true ↔ n ∈ r.names :=
  any_beq_iff_mem_map r.mem (·.1) n

/-- the names of the built-in listeners among `mem` (`Reg.builtinNames` as a function of the list) -/
def builtinOf (mem : List (String × LKind)) : List String := (mem.filter (·.2.builtin)).map (·.1)

theorem builtinOf_concat (mem : List (String × LKind)) (n : String) (k : LKind) :
    builtinOf (mem ++ [(n, k)]) = if k.builtin then builtinOf mem ++ [n] else builtinOf mem := by
  cases hk : k.builtin <;> simp [builtinOf, List.filter_append, hk]

theorem mem_builtinOf_filter_ne (mem : List (String × LKind)) (n m : String) :
    m ∈ builtinOf (mem.filter fun x => x.1 ≠ n) ↔ m ∈ builtinOf mem ∧ m ≠ n := by
  simp only [builtinOf, List.mem_map, List.mem_filter, ne_eq, decide_eq_true_eq]
  exact ⟨fun ⟨x, ⟨⟨hx, hne⟩, hb⟩, e⟩ => ⟨⟨x, ⟨hx, hb⟩, e⟩, e ▸ hne⟩, fun ⟨⟨x, ⟨hx, hb⟩, e⟩, hne⟩ => ⟨x, ⟨⟨hx, e ▸ hne⟩, hb⟩, e⟩⟩

/-- a service's listeners are not built-in: dropping them leaves the built-in ones as they are -/
theorem builtinOf_filter_svc (mem : List (String × LKind)) (o : Nat) :
    builtinOf (mem.filter fun x => x.2 ≠ LKind.svcExt o) = builtinOf mem := by
  simp only [builtinOf, List.filter_filter]
  congr 1
  apply List.filter_congr
  intro x _
  cases x.2 <;> simp [LKind.builtin]

/-! ### the invariant -/

structure Inv (r : Reg) : Prop where
  names_unique : r.names.Nodup
  db_unique : r.db.Nodup
  db_is_builtin : ∀ n, n ∈ r.db ↔ n ∈ r.builtinNames
  builtin_advertised : ∀ n, n ∈ r.builtinNames → n ∈ r.adv
  advertised_builtin : ∀ n, n ∈ r.adv → n ∈ r.builtinNames

/-- the invariant speaks of `mem`, `db` and `adv` only -/
theorem inv_iff (r : Reg) : Inv r ↔ (r.mem.map (·.1)).Nodup ∧ r.db.Nodup ∧
    (∀ n, n ∈ r.db ↔ n ∈ builtinOf r.mem) ∧ (∀ n, n ∈ r.adv ↔ n ∈ builtinOf r.mem) :=
  ⟨fun h => ⟨h.names_unique, h.db_unique, h.db_is_builtin, fun n => ⟨h.advertised_builtin n, h.builtin_advertised n⟩⟩,
   fun ⟨h1, h2, h3, h4⟩ => ⟨h1, h2, h3, fun n => (h4 n).mpr, fun n => (h4 n).mp⟩⟩

theorem builtin_sub_names (r : Reg) (n : String) (h : n ∈ r.builtinNames) : n ∈ r.names :=
  (List.Sublist.map _ List.filter_sublist).subset h

theorem addEndpoint_mem (r : Reg) (e n : String) : (r.addEndpoint e n).mem = r.mem := by
  unfold Reg.addEndpoint; split <;> rfl
theorem addEndpoint_db (r : Reg) (e n : String) : (r.addEndpoint e n).db = r.db := by
  unfold Reg.addEndpoint; split <;> rfl
theorem addEndpoint_adv (r : Reg) (e n : String) : (r.addEndpoint e n).adv = r.adv := by
  unfold Reg.addEndpoint; split <;> rfl

theorem addEndpoint_inv (r : Reg) (e n : String) (h : Inv r) : Inv (r.addEndpoint e n) := by
  rw [inv_iff, addEndpoint_mem, addEndpoint_db, addEndpoint_adv]; exact (inv_iff r).mp h

/-- an operator's add request is of a built-in kind -/
def OpOk (_r : Reg) : RegOp → Prop
  | .add k _ _ => k.builtin = true
  | _ => True

theorem step_inv (r : Reg) (op : RegOp) (hk : OpOk r op) (h : Inv r) : Inv (regStep r op) := by
  obtain ⟨hn, hd, hdb, hadv⟩ := (inv_iff r).mp h
  cases op with
  | add kind name ep =>
    have hb : kind.builtin = true := hk
    rw [regStep]
    -- `split` on this nest of conditionals is slow: the conditions are named instead
    by_cases hh : r.has name = true
    · rw [if_pos hh]; exact h
    · rw [if_neg hh]
      by_cases he : kind = .ext ∧ r.endpointUsed ep = true
      · rw [if_pos he]; exact h
      · rw [if_neg he]
        have hnot : name ∉ r.mem.map (·.1) := fun q => hh ((has_iff r name).mpr q)
        have hnb : name ∉ builtinOf r.mem := fun q => hnot (builtin_sub_names r name q)
        -- the state with the listener added, before its endpoint is
        have core : Inv { r with mem := r.mem ++ [(name, kind)], db := r.db ++ [name], adv := r.adv ++ [name] } := by
          rw [inv_iff]
          simp only [List.map_append, List.map_singleton, nodup_concat, builtinOf_concat, hb, if_true, List.mem_append,
            hdb, hadv, implies_true, and_true]
          exact ⟨⟨hn, hnot⟩, hd, hnb⟩
        have hc : r.db.contains name = false := by simpa [hdb] using hnb
        simp only [hc, Bool.false_eq_true, if_false]
        split
        · exact addEndpoint_inv _ _ _ core
        · exact core
  | remove name =>
    simp only [regStep]
    split
    · exact h
    · rw [inv_iff]
      simp only [removeFirstName_eq_filter name r.mem hn, mem_builtinOf_filter_ne, List.mem_filter, hdb, hadv,
        ne_eq, decide_eq_true_eq, implies_true, and_true]
      exact ⟨hn.sublist (List.Sublist.map _ List.filter_sublist), hd.sublist List.filter_sublist⟩
  | svcExc2 owner name ep =>
    simp only [regStep]
    split
    · exact h
    · rename_i hh
      split
      · exact h
      · refine addEndpoint_inv _ _ _ ((inv_iff _).mpr ?_)
        simp only [List.map_append, List.map_singleton, nodup_concat, builtinOf_concat, LKind.builtin, Bool.false_eq_true, if_false]
        exact ⟨⟨hn, fun q => hh ((has_iff r name).mpr q)⟩, hd, hdb, hadv⟩
  | svcGone owner =>
    rw [inv_iff]
    simp only [regStep, builtinOf_filter_svc]
    exact ⟨hn.sublist (List.Sublist.map _ List.filter_sublist), hd, hdb, hadv⟩

/-! ### every history -/

/-- every operator add request in the history is of a built-in kind and does not name a
    service-registered listener at the moment it is made -/
def OpsOk : Reg → List RegOp → Prop
  | _, [] => True
  | r, op :: ops => OpOk r op ∧ OpsOk (regStep r op) ops

theorem run_inv_from : ∀ (ops : List RegOp) (r : Reg), Inv r → OpsOk r ops → Inv (ops.foldl regStep r) := by
  intro ops
  induction ops with
  | nil => intro r h _; exact h
  | cons op ops ih => intro r h hk; exact ih _ (step_inv r op hk.1 h) hk.2

theorem init_inv : Inv {} :=
  ⟨by simp [Reg.names], by simp, by intro n; simp [Reg.builtinNames], by intro n; simp [Reg.builtinNames], by intro n; simp⟩

/-- Through any sequence of add (new, duplicate, failed-start), remove (known, unknown),
    service registration and service disconnect: listener names stay unique, the persisted
    names are unique, and the running built-in set, the persisted set and the advertised set
    are the same set. -/
theorem three_views (ops : List RegOp) (hk : OpsOk {} ops) :
    (regRun ops).names.Nodup ∧ (regRun ops).db.Nodup ∧
    ∀ n, (n ∈ (regRun ops).db ↔ n ∈ (regRun ops).builtinNames) ∧ (n ∈ (regRun ops).adv ↔ n ∈ (regRun ops).builtinNames) := by
  have h := run_inv_from ops {} init_inv hk
  exact ⟨h.names_unique, h.db_unique, fun n => ⟨h.db_is_builtin n, ⟨h.advertised_builtin n, h.builtin_advertised n⟩⟩⟩

/-- a rejected add request (the name is taken — here by a service's listener — or the endpoint
    is) leaves no trace in any view -/
theorem rejected_add_leaves_no_trace :
    let r := regRun [.svcExc2 0 "L" "e", .add .smb "L" "", .add .ext "M" "e"]
    r.adv = [] ∧ r.db = [] ∧ r.builtinNames = [] ∧ r.names = ["L"] := by decide

/-! ### a service connection goes away -/

/-- exactly the listeners it registered disappear from the running set … -/
theorem svcGone_exact (r : Reg) (o : Nat) (x : String × LKind) :
    x ∈ (regStep r (.svcGone o)).mem ↔ x ∈ r.mem ∧ x.2 ≠ LKind.svcExt o := by
  simp [regStep, List.mem_filter]

/-- … with their endpoints; every endpoint of every other listener stays -/
theorem svcGone_endpoints (r : Reg) (o : Nat) (e n : String) :
    (e, n) ∈ (regStep r (.svcGone o)).endpoints ↔ (e, n) ∈ r.endpoints ∧ (n, LKind.svcExt o) ∉ r.mem := by
  simp only [regStep, List.mem_filter, List.contains_eq_mem, List.mem_map, Bool.not_eq_true', decide_eq_false_iff_not,
    not_exists, not_and, decide_eq_true_eq]
  constructor
  · rintro ⟨h1, h2⟩
    exact ⟨h1, fun hm => h2 (n, LKind.svcExt o) ⟨hm, rfl⟩ rfl⟩
  · rintro ⟨h1, h2⟩
    refine ⟨h1, ?_⟩
    rintro ⟨xn, xk⟩ ⟨hx, hk⟩ rfl
    simp only at hk; subst hk
    exact h2 hx

/-- the service registries: exactly the owner's agent types and listener kinds go, in place -/
theorem dropOwner_exact (s : Svc) (c : Nat) (x : Str × Nat) :
    (x ∈ (s.dropOwner c).agents ↔ x ∈ s.agents ∧ x.2 ≠ c) ∧
    (x ∈ (s.dropOwner c).listeners ↔ x ∈ s.listeners ∧ x.2 ≠ c) := by
  simp [Svc.dropOwner, List.mem_filter]

/-- nothing else about the registry changes when a service connection goes away -/
theorem svcGone_keeps_views (r : Reg) (o : Nat) :
    (regStep r (.svcGone o)).db = r.db ∧ (regStep r (.svcGone o)).adv = r.adv ∧
    (regStep r (.svcGone o)).builtinNames = r.builtinNames :=
  ⟨rfl, rfl, builtinOf_filter_svc r.mem o⟩

/-! ### regenerated facts -/

open Gen.LockFacts in
/-- regenerated (`Gen.TableWrites`): every assignment to these tables anywhere in the teamserver is an append at the end,
    a delete of one index, the hand-out split, `nil` / an empty literal, or a slice built up freshly in a local - never a
    re-slice to length 0 or a filter in place, whose later appends would overwrite what an earlier reader still holds.
    The models' immutable lists are faithful to the Go slices only under this fact. -/
theorem registry_writes_value_like :
    aliasingWrites ["Listeners", "Endpoints"] = [] ∧ writtenTables ["Listeners", "Endpoints"] = ["Listeners", "Endpoints"] ∧ Gen.TableWrites.reslicesToZero = [] :=
  ⟨aliasingWrites_eq_nil _, by decide, rfl⟩

/-- the same on every control-flow path separately (regenerated `Gen.LockPaths`): no early return, branch or case of
    any of these functions leaves a mutex held that a `defer` does not release -/
theorem service_locks_balanced_every_path : pathsUnbalancedIn ["service"] = [] :=
  pathsUnbalancedIn_eq_nil _

theorem service_locks_balanced : unbalancedIn ["service"] = [] := unbalancedIn_eq_nil _

open Gen.CallSeq in
/-- ListenerRemove: stop the server, then delete the row, and only then forget the listener -/
theorem remove_order :
    (Teamserver_ListenerRemove.filter (fun c => c = "Stop" ∨ c = "EndpointRemove" ∨ c = "ListenerRemove"))
      = ["Stop", "EndpointRemove", "ListenerRemove"] := by decide +kernel

/-! non-vacuity -/
example : OpsOk {} [.add .smb "a" "", .add .ext "b" "e", .add .smb "a" "", .remove "a", .svcExc2 1 "x" "e2", .svcGone 1] := by
  simp [OpsOk, OpOk, LKind.builtin]
example : (regRun [.add .smb "a" "", .add .ext "b" "e", .add .smb "a" "", .remove "a"]).adv = ["b"] := by decide

end Havoc.C16
