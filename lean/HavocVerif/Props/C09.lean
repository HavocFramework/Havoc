import HavocVerif.Lemmas.Forest
import HavocVerif.Gen.SrcLines
/-
  C09 — The pivot graph is always a consistent forest, mirrored in the database.
-/
namespace Havoc.C09
open Havoc

/-- the event step with the agent's death in its "one consistent detach at a time" form
    (`diedSpec`); the loop form `Forest.died`, which mirrors `UnlinkFromAll` statement by
    statement, is what the driver runs, and the driver compares the two on every explored
    state (DESIGN.md §5 C09). -/
def specStep (f : Forest) : FOp → Forest
  | .died a => f.diedSpec a
  | op => f.step op

theorem register_inv (f : Forest) (h : f.Inv) (a : Nat) : (f.register a).Inv := by
  unfold Forest.register
  split
  · exact h
  · exact ⟨h.linkIff, h.nodup, h.rowsIff, h.rowsNodup, h.noSelf, fun c hc => h.closed c fun hm => hc (by simp [hm])⟩

theorem step_inv (f : Forest) (h : f.Inv) (op : FOp) : (specStep f op).Inv := by
  cases op with
  | register a => exact register_inv f h a
  | connect p c => exact Forest.connect_inv f h p c
  | disconnect p c =>
    simp only [specStep, Forest.step, Forest.disconnect]
    split
    · exact Forest.linkRemove_inv f h p c
    · exact h
  | died a => exact Forest.diedSpec_inv f h a
  | markAlive a =>
    simp only [specStep, Forest.step, Forest.markAlive]
    split
    · exact Forest.inv_of_active f h _
    · exact h

/-- After ANY sequence of connect (new agent, existing agent, the sender itself, an
    ancestor), reconnect, disconnect, death and mark-alive events: an agent is among a
    parent's links exactly when that parent is its parent, links hold no duplicates, the
    persisted rows are exactly the live links, and nobody is its own parent. -/
theorem forest_inv (ops : List FOp) : (ops.foldl specStep {}).Inv :=
  List.foldlRecOn ops specStep Forest.inv_init fun f h op _ => step_inv f h op

/-- at most one parent is structural (`parent : Nat → Option Nat`); the database agrees: -/
theorem db_one_parent (f : Forest) (h : f.Inv) (p q c : Nat) (h1 : (p, c) ∈ f.rows) (h2 : (q, c) ∈ f.rows) :
    p = q := by
  have a := (h.rowsIff p c).mp h1
  have b := (h.rowsIff q c).mp h2
  rw [a] at b; exact Option.some.inj b

/-- removing an agent with any number of links completes and detaches all of them -/
theorem died_detaches_all (f : Forest) (h : f.Inv) (a : Nat) (ha : f.agents.contains a = true) :
    (f.diedSpec a).links a = [] ∧ (f.diedSpec a).parent a = none ∧ ∀ c, (f.diedSpec a).parent c ≠ some a := by
  have hinv := Forest.diedSpec_inv f h a
  have h1 := Forest.detachChildren_inv f h a (f.links a)
  have e : (f.detachChildren a (f.links a)).links a = [] := by rw [Forest.detachChildren_links, foldl_erase_self]
  -- the last clause says the same as the first, the forest being consistent
  suffices hl : (f.diedSpec a).links a = [] ∧ (f.diedSpec a).parent a = none from
    ⟨hl.1, hl.2, fun c hc => by simpa [hl.1] using (hinv.linkIff a c).mpr hc⟩
  unfold Forest.diedSpec
  simp only [ha, not_true_eq_false, if_false]
  cases hq : (f.detachChildren a (f.links a)).parent a with
  | none => exact ⟨e, hq⟩
  | some q =>
    -- detaching `a` from its parent `q ≠ a` leaves `a`'s own links alone
    have hqa : a ≠ q := fun e' => h1.noSelf a (e' ▸ hq)
    simp [Forest.linkRemove, hq, upd, hqa, e]

/-! ### no agent is its own ancestor (partial: see `acyclic_partial`) -/

/-- `c` is `p` or an ancestor of `p` -/
inductive UpStar (parent : Nat → Option Nat) : Nat → Nat → Prop
  | refl (a : Nat) : UpStar parent a a
  | step (c q p : Nat) : parent p = some q → UpStar parent c q → UpStar parent c p

/-- the cycle guard is sound: whenever it fires, `c` really is `p` or above it -/
theorem upReaches_sound (f : Forest) (fuel p c : Nat) (h : upReaches f fuel p c = true) :
    UpStar f.parent c p := by
  induction fuel generalizing p with
  | zero => simp [upReaches] at h
  | succ fuel ih =>
    simp only [upReaches] at h
    by_cases e : p = c
    · subst e; exact .refl p
    · simp only [e, if_false] at h
      cases hq : f.parent p with
      | none => simp [hq] at h
      | some q => simp only [hq] at h; exact .step c q p hq (ih q h)

def Acyclic (parent : Nat → Option Nat) : Prop := ∀ a, Acc (fun x y => parent y = some x) a

/-- cutting a link never creates a cycle -/
theorem acyclic_linkRemove (f : Forest) (h : Acyclic f.parent) (p c : Nat) (u : Bool) :
    Acyclic (f.linkRemove p c u).parent := by
  intro a
  apply Subrelation.accessible (r := fun x y => f.parent y = some x) _ (h a)
  intro x y hxy
  simp only [Forest.linkRemove] at hxy
  split at hxy
  · simp only [upd] at hxy
    split at hxy
    · simp at hxy
    · exact hxy
  · exact hxy

/-- attaching `c` below `p` keeps the graph acyclic provided `c` is neither `p` nor above it
    (what the guard checks).  PARTIAL: that `upReaches` with fuel `|agents| + 1` finds every
    ancestor (completeness of the guard) is checked by correspondence, not proved. -/
theorem acyclic_partial (parent : Nat → Option Nat) (h : Acyclic parent) (p c : Nat)
    (hnot : ¬ UpStar parent c p) : Acyclic (upd parent c (some p)) := by
  -- nodes from which `c` is not reachable upwards keep their (unchanged) up-set
  have key : ∀ z, (¬ UpStar parent c z) → Acc (fun x y => upd parent c (some p) y = some x) z := by
    intro z
    induction h z with
    | intro z _ ih =>
      intro hz
      refine Acc.intro z ?_
      intro y hy
      have hzc : z ≠ c := by intro e; subst e; exact hz (.refl z)
      simp only [upd, hzc, if_false] at hy
      exact ih y hy (fun hcy => hz (.step c y z hy hcy))
  intro a
  induction h a with
  | intro a _ ih =>
    refine Acc.intro a ?_
    intro y hy
    by_cases hac : a = c
    · subst hac
      simp only [upd, if_true] at hy
      have : y = p := (Option.some.inj hy).symm
      subst this
      exact key y hnot
    · simp only [upd, hac, if_false] at hy
      exact ih y hy

/-! non-vacuity / model tests (finite examples, labelled as tests) -/
example : (([FOp.register 1, FOp.connect 1 2, FOp.connect 2 3, FOp.connect 3 1, FOp.connect 1 3] : List FOp).foldl Forest.step {}).parent 3
    = some 1 := by decide
example : (([FOp.register 1, FOp.connect 1 2, FOp.connect 2 3, FOp.connect 3 1] : List FOp).foldl Forest.step {}).parent 1
    = none := by decide
example : let f := (([FOp.register 1, FOp.connect 1 2, FOp.connect 1 3, FOp.connect 3 4] : List FOp).foldl Forest.step {})
    ((f.died 1).agents.map fun a => ((f.died 1).parent a, (f.died 1).links a))
      = ((f.diedSpec 1).agents.map fun a => ((f.diedSpec 1).parent a, (f.diedSpec 1).links a)) := by decide

/-- regenerated from cmd/server/agent.go on every run: the four functions `Forest.died` / `Forest.linkRemove` / `addRow`
    transcribe, statement for statement.  `Died` detaches unconditionally (no test of `Active` in front of
    `UnlinkFromAll`); `UnlinkFromAll` removes the agent's own links first (rows and the children's parent pointers,
    list emptied afterwards) and then the agent from every other agent's list, with the row; `LinkRemove` clears the
    parent pointer only when it names this parent, deletes the first list entry with that id when asked to, and always
    removes the row and records the child -/
theorem forest_sources_transcribed :
    Gen.SrcLines.died =
      [
       "Died(Agent *agent.Agent)",
       "Agent.Active = false",
       "t.UnlinkFromAll(Agent)",
       "t.EventAgentMark(Agent.NameID, \"Dead\")",
       "t.AgentUpdate(Agent)"] ∧
    Gen.SrcLines.unlinkFromAll =
      [
       "UnlinkFromAll(Agent *agent.Agent)",
       "for _, LinkAgent := range Agent.Pivots.Links { t.LinkRemove(Agent, LinkAgent, false) }",
       "Agent.Pivots.Links = nil",
       "for _, ParentAgent := range t.Agents.Agents { if ParentAgent.NameID == Agent.NameID { continue } for i := range ParentAgent.Pivots.Links { if ParentAgent.Pivots.Links[i].NameID == Agent.NameID { t.LinkRemove(ParentAgent, Agent, false) ParentAgent.Pivots.Links = append(ParentAgent.Pivots.Links[:i], ParentAgent.Pivots.Links[i+1:]...) break } } }"] ∧
    Gen.SrcLines.linkRemove =
      [
       "LinkRemove(ParentAgent *agent.Agent, LinkAgent *agent.Agent, UpdateLinks bool)",
       "var ParentAgentID, _ = strconv.ParseInt(ParentAgent.NameID, 16, 64)",
       "var LinkAgentID, _ = strconv.ParseInt(LinkAgent.NameID, 16, 64)",
       "LinkAgent.Active = false",
       "LinkAgent.Reason = \"Disconnected\"",
       "if LinkAgent.Pivots.Parent == ParentAgent { LinkAgent.Pivots.Parent = nil }",
       "if UpdateLinks { for i := range ParentAgent.Pivots.Links { if ParentAgent.Pivots.Links[i].NameID == LinkAgent.NameID { ParentAgent.Pivots.Links = append(ParentAgent.Pivots.Links[:i], ParentAgent.Pivots.Links[i+1:]...) break } } }",
       "err := t.DB.LinkRemove(int(ParentAgentID), int(LinkAgentID))",
       "if err != nil { logger.Error(\"Could not remove link to database: \" + err.Error()) }",
       "t.AgentUpdate(LinkAgent)"] ∧
    Gen.SrcLines.linkAdd =
      [
       "LinkAdd(ParentAgent *agent.Agent, LinkAgent *agent.Agent) error",
       "var ParentAgentID, _ = strconv.ParseInt(ParentAgent.NameID, 16, 64)",
       "var LinkAgentID, _ = strconv.ParseInt(LinkAgent.NameID, 16, 64)",
       "err := t.DB.LinkAdd(int(ParentAgentID), int(LinkAgentID))",
       "if err != nil { logger.Error(\"Could not add link to database: \" + err.Error()) }",
       "return nil"] :=
  ⟨rfl, rfl, rfl, rfl⟩

end Havoc.C09
