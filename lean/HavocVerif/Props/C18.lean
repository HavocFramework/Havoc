import HavocVerif.Model.Expr
import HavocVerif.Lemmas.Prec
import HavocVerif.Gen.HclOps
/-
  C18 — yaotl expressions and templates evaluate as the language defines.
  The reference semantics is `Hx.eval` (Model/Expr.lean); the theorems below pin the clauses of
  the property on it for ALL operands; the correspondence run compares it with the real
  evaluator on generated trees, each printed with minimal and with redundant parentheses.
-/
namespace Havoc.C18
open Havoc.Hx

def same : Res → Res → Bool
  | .ok a, .ok b => V.beq a b
  | .err s, .err t => s == t
  | .inexact, .inexact => true
  | _, _ => false

/-! ### exact arbitrary-precision arithmetic and comparison -/

theorem add_exact (a b : Int) : binop .add (.num a) (.num b) = .ok (.num (a + b)) := rfl
theorem sub_exact (a b : Int) : binop .sub (.num a) (.num b) = .ok (.num (a - b)) := rfl
theorem mul_exact (a b : Int) : binop .mul (.num a) (.num b) = .ok (.num (a * b)) := rfl
theorem div_exact (a b : Int) (hb : b ≠ 0) (h : a % b = 0) : binop .div (.num a) (.num b) = .ok (.num (a / b)) := by
  simp [binop, asNum, arith, hb, h]
theorem zero_by_zero_is_error : binop .div (.num 0) (.num 0) = .err .num := rfl
theorem lt_exact (a b : Int) : binop .lt (.num a) (.num b) = .ok (.bool (decide (a < b))) := rfl
theorem ge_exact (a b : Int) : binop .ge (.num a) (.num b) = .ok (.bool (decide (a ≥ b))) := rfl

/-- no wrap-around anywhere: 2^64 * 2^64 + 1 -/
example : same (eval 5 [] (.bin .add (.bin .mul (.num 18446744073709551616) (.num 18446744073709551616)) (.num 1)))
    (.ok (.num 340282366920938463463374607431768211457)) = true := by decide

/-! ### equality across types is false, never an error -/

theorem eq_num_str (n : Int) (s : String) : binop .eq (.num n) (.str s) = .ok (.bool false) := rfl
theorem eq_bool_num (b : Bool) (n : Int) : binop .eq (.bool b) (.num n) = .ok (.bool false) := rfl
theorem eq_null_null : binop .eq .null .null = .ok (.bool true) := rfl
theorem ne_is_not_eq (a b : V) : binop .ne a b = .ok (.bool (!V.beq a b)) := rfl

/-! ### ill-typed operations, unknown names, missing attributes, out-of-range indexes: an error, not a value -/

theorem binop_not_num_left (op : BinOp) (hop : op.ty = .num ∨ op ∈ [.lt, .le, .gt, .ge]) (a v : V) (ha : asNum a = none) :
    binop op a v = .err op.ty := by
  cases op with
  | eq | ne | and | or => exact absurd hop (by decide)
  | _ => simp [binop, ha]

theorem binop_not_bool_left (op : BinOp) (hop : op = .and ∨ op = .or) (a v : V) (ha : asBool a = none) :
    binop op a v = .err .bool := by
  rcases hop with rfl | rfl
  · simp [binop, ha]
  · simp [binop, ha]

theorem arith_on_bool_is_error (op : BinOp) (hop : op.ty = .num) (b : Bool) (v : V) : binop op (.bool b) v = .err .num :=
  (binop_not_num_left op (.inl hop) _ v rfl).trans (congrArg Res.err hop)

theorem arith_on_null_is_error (v : V) : binop .add .null v = .err .num := binop_not_num_left .add (.inl rfl) _ v rfl
theorem arith_on_tuple_is_error (vs : List V) (v : V) : binop .mul (.tuple vs) v = .err .num :=
  binop_not_num_left .mul (.inl rfl) _ v rfl
theorem logic_on_num_is_error (n : Int) (v : V) : binop .and (.num n) v = .err .bool :=
  binop_not_bool_left .and (.inl rfl) _ v rfl
theorem compare_bool_is_error (b : Bool) (v : V) : binop .lt (.bool b) v = .err .bool :=
  binop_not_num_left .lt (.inr (by decide)) _ v rfl

theorem unknown_name_is_error (f : Nat) (env : Env) (x : String) (h : env.lookup x = none) :
    eval (f + 1) env (.var x) = .err .dyn := by simp [eval, h]

theorem index_out_of_range_is_error (vs : List V) (i : Int) (h : ¬ (0 ≤ i ∧ i.toNat < vs.length)) :
    indexV (.tuple vs) (.num i) = .err .dyn := by simp [indexV, asNum, h]

theorem index_in_range (vs : List V) (i : Nat) (h : i < vs.length) : indexV (.tuple vs) (.num i) = .ok (vs.getD i .null) := by
  simp [indexV, asNum, h]

theorem missing_attr_is_error (items : List (String × V)) (n : String) (h : items.lookup n = none) :
    attrV (.obj items) n = .err .dyn := by simp [attrV, h]

theorem attr_of_non_object_is_error (n : String) (k : Int) : attrV (.num k) n = .err .dyn := rfl
theorem index_of_number_is_error (k : Int) (i : V) : indexV (.num k) i = .err .dyn := rfl

/-- an error in an operand is an error of the operation (nothing is silently dropped) -/
theorem error_propagates (f : Nat) (env : Env) (op : BinOp) (l r : E) (t : Ty)
    (h : eval f env l = .err t) : eval (f + 1) env (.bin op l r) = .err op.ty := by
  simp [eval, h, Res.both]

/-! ### conditionals -/

/-- well-typed conditional: the chosen branch, converted to the common type of both -/
theorem cond_true (f : Nat) (env : Env) (c t e : E) (tv ev : V) (ut : Ty)
    (hc : eval f env c = .ok (.bool true)) (ht : eval f env t = .ok tv) (he : eval f env e = .ok ev)
    (hu : condType (.ok tv) (.ok ev) = some ut) (hno : ut ≠ .other) :
    eval (f + 1) env (.cond c t e) = .ok (convTo ut tv) := by
  simp only [eval, ht, he, hu, hc]
  cases ut <;> simp_all [asBool, V.isNull]

theorem isDynNull_of_typed (v : V) (h : v.ty ≠ .dyn) : (Res.ok v).isDynNull = false := by
  cases v with
  | null => exact absurd rfl h
  | _ => rfl

/-- two results of known types: the result type is their unification -/
theorem condType_typed (tv ev : V) (ht : tv.ty ≠ .dyn) (he : ev.ty ≠ .dyn) :
    condType (.ok tv) (.ok ev) = unifyTy tv.ty ev.ty := by
  simp [condType, isDynNull_of_typed tv ht, isDynNull_of_typed ev he, Res.ty, ht, he]

/-- a literal null takes the type of the other result -/
theorem condType_null_left (r : Res) : condType (.ok .null) r = some r.ty := by simp [condType, Res.isDynNull]
theorem cond_null_chosen_is_typed (f : Nat) (env : Env) (c t e : E) (n : Int)
    (hc : eval f env c = .ok (.bool true)) (ht : eval f env t = .ok .null) (he : eval f env e = .ok (.num n)) :
    eval (f + 1) env (.cond c t e) = .ok (.tnull .num) :=
  cond_true f env c t e .null (.num n) .num hc ht he rfl (by decide)

/-- when one result's type is unknown nothing is converted: the chosen result as it is -/
theorem cond_unknown_type_passes_through (f : Nat) (env : Env) (c t e : E) (n : Int) (b : Bool)
    (hc : eval f env c = .ok (.bool b)) (ht : eval f env t = .ok (.num n)) (he : eval f env e = .err .dyn) :
    eval (f + 1) env (.cond c t e) = if b then .ok (.num n) else .err .dyn := by
  cases b <;> simp [eval, ht, he, hc, condType, Res.isDynNull, Res.ty, V.ty, asBool, V.isNull, convTo]

theorem cond_inconsistent_types (f : Nat) (env : Env) (c t e : E) (n : Int) (b : Bool)
    (ht : eval f env t = .ok (.num n)) (he : eval f env e = .ok (.bool b)) :
    eval (f + 1) env (.cond c t e) = .err .dyn := by
  simp [eval, ht, he, condType, Res.isDynNull, Res.ty, V.ty, unifyTy]

theorem number_and_string_unify_to_string (n : Int) : unifyTy .num .str = some .str ∧ convTo .str (.num n) = .str (toString n) :=
  ⟨rfl, rfl⟩

/-! ### templates -/

/-- `"${x}"` is x itself, whatever its type -/
theorem single_interpolation_is_the_value (f : Nat) (env : Env) (x : String) :
    eval (f + 2) env (.tmpl [.var x]) = eval (f + 1) env (.var x) := by
  simp [eval, normTmpl, E.unstrip]

/-- strip markers touch only the literal directly next to them -/
example : normTmpl none [.strip false true (.var "a"), .var "b", .str " z"] = [.var "a", .var "b", .str " z"] := rfl
example : (normTmpl none [.strip false true (.var "a"), .str " z"]).map (fun e => match e with | .str s => s | _ => "?") = ["?", "z"] := by decide
example : (normTmpl none [.str "y ", .strip true false (.var "a")]).map (fun e => match e with | .str s => s | _ => "?") = ["y", "?"] := by decide

/-! ### for expressions, tuples, objects (examples on the executable semantics) -/
example : same (eval 6 [("nums", .tuple [.num 1, .num 2, .num 3])]
    (.forE none "v" (.var "nums") none (.bin .mul (.var "v") (.num 10)) (some (.bin .ne (.var "v") (.num 2))) false)) (.ok (.tuple [.num 10, .num 30])) = true := by decide
example : same (eval 6 [] (.index (.tuple [.num 5, .num 6]) (.num 1))) (.ok (.num 6)) = true := by decide
example : same (eval 6 [] (.attr (.obj [("b", .num 2), ("a", .num 1)]) "a")) (.ok (.num 1)) = true := by decide
example : same (eval 5 [("t", .tuple [])] (.tmpl [.str "a", .var "t"])) (.err .str) = true := by decide
example : same (eval 5 [] (.tmpl [.str "a", .null])) (.err .str) = true := by decide
example : same (eval 5 [] (.cond (.bool false) (.index (.tuple []) (.num 3)) (.num 1))) (.ok (.num 1)) = true := by decide
example : same (eval 5 [] (.cond (.bool false) (.bin .add (.index (.tuple []) (.num 3)) (.num 1)) (.bool true))) (.err .dyn) = true := by decide

/-! ### splats -/

/-- a splat of (untyped) null has no elements, whatever is applied to them -/
theorem splat_of_null (f : Nat) (env : Env) (each : E) : eval (f + 2) env (.splat .null each) = .ok (.tuple []) := by
  simp [eval]

/-- a value that is not a sequence counts as a sequence of one: also an object and a map -/
theorem splat_of_scalar (f : Nat) (env : Env) (n : Int) :
    eval (f + 2) env (.splat (.num n) .anon) = .ok (.tuple [.num n]) := by
  simp [eval, anonName, Res.isErr]

example : same (eval 6 [("mp", .mapv [("a", .num 1), ("b", .num 2)])] (.splat (.var "mp") .anon))
    (.ok (.tuple [.mapv [("a", .num 1), ("b", .num 2)]])) = true := by decide
example : same (eval 6 [("mp", .mapv [("a", .num 1)])] (.splat (.var "mp") (.attr .anon "a"))) (.ok (.tuple [.num 1])) = true := by decide
/-- over a sequence the traversal is applied to every element, in order; one failing element fails the splat -/
example : same (eval 6 [("objs", .tuple [.obj [("a", .num 1)], .obj [("a", .num 2)]])] (.splat (.var "objs") (.attr .anon "a")))
    (.ok (.tuple [.num 1, .num 2])) = true := by decide
example : same (eval 6 [("objs", .tuple [.obj [("a", .num 1)], .obj [("b", .num 2)]])] (.splat (.var "objs") (.attr .anon "a")))
    (.err .other) = true := by decide

/-! ### for expressions: keys, filters, object results, grouping -/
example : same (eval 6 [("o", .obj [("a", .num 1), ("b", .num 2)])]
    (.forE (some "k") "v" (.var "o") none (.tuple [.var "k", .var "v"]) none false))
    (.ok (.tuple [.tuple [.str "a", .num 1], .tuple [.str "b", .num 2]])) = true := by decide
example : same (eval 6 [("nums", .tuple [.num 5, .num 6])]
    (.forE (some "i") "v" (.var "nums") none (.bin .add (.var "i") (.var "v")) none false)) (.ok (.tuple [.num 5, .num 7])) = true := by decide
/-- grouping collects the values of equal keys in iteration order; without it an equal key is an error -/
example : same (eval 7 [("nums", .tuple [.num 1, .num 2, .num 3])]
    (.forE none "v" (.var "nums") (some (.bin .mod (.var "v") (.num 2))) (.var "v") none true))
    (.ok (.obj [("0", .tuple [.num 2]), ("1", .tuple [.num 1, .num 3])])) = true := by decide
example : same (eval 7 [("nums", .tuple [.num 1, .num 2, .num 3])]
    (.forE none "v" (.var "nums") (some (.bin .mod (.var "v") (.num 2))) (.var "v") none false)) (.err .dyn) = true := by decide
/-- a null key, a null or non-boolean condition, iteration over null or a number: errors -/
example : same (eval 6 [("nums", .tuple [.num 1])] (.forE none "v" (.var "nums") (some .null) (.var "v") none false)) (.err .dyn) = true := by decide
example : same (eval 6 [("nums", .tuple [.num 1])] (.forE none "v" (.var "nums") none (.var "v") (some .null) false)) (.err .dyn) = true := by decide
example : same (eval 6 [] (.forE none "v" .null none (.var "v") none false)) (.err .dyn) = true := by decide
example : same (eval 6 [] (.forE none "v" (.num 3) none (.var "v") none false)) (.err .dyn) = true := by decide
/-- a filtered-out element's body is not evaluated (its error does not count) -/
example : same (eval 7 [("nums", .tuple [.num 1, .num 2])]
    (.forE none "v" (.var "nums") none (.index (.tuple [.num 9]) (.bin .sub (.var "v") (.num 1))) (some (.bin .lt (.var "v") (.num 2))) false))
    (.ok (.tuple [.num 9])) = true := by decide

/-! ### template directives -/
/-- `%{ for }`: the iteration results concatenated; a body that is one interpolation is still text -/
example : same (eval 7 [("nums", .tuple [.num 1, .num 2])]
    (.tmpl [.str "n:", .join (.forE none "v" (.var "nums") none (.tmplS [.var "v", .str ","]) none false)])) (.ok (.str "n:1,2,")) = true := by decide
example : same (eval 7 [("b", .bool true)] (.tmplS [.cond (.var "b") (.tmplS [.var "b"]) (.str "")])) (.ok (.str "true")) = true := by decide
example : same (eval 7 [("t", .tuple [.null])] (.join (.forE none "v" (.var "t") none (.var "v") none false))) (.err .str) = true := by decide

/-! ### function calls -/
namespace Call

/-- a name that is not a function is an error, whatever the arguments -/
theorem unknown_function_is_error (f : Nat) (env : Env) (name : String) (args : List E) (ex : Bool)
    (h : funSig name = none) : eval (f + 1) env (.call name args ex) = .err .dyn := by
  simp [eval, h]

/-- too few arguments, or too many for a function without a variadic parameter: an error before any
    (non-expanding) argument is looked at -/
theorem wrong_arity_is_error (f : Nat) (env : Env) (name : String) (args : List E) (sig : FunSig)
    (h : funSig name = some sig) (ha : arityOk sig args.length = false) :
    eval (f + 1) env (.call name args false) = .err .dyn := by
  simp [eval, h, ha]

/-- the expanding argument must be a sequence: a scalar, an object or null is an error -/
theorem expand_of_non_sequence_is_error (f : Nat) (env : Env) (name : String) (init : List E) (x : E) (sig : FunSig)
    (v : V) (h : funSig name = some sig) (hx : eval f env x = .ok v)
    (hv : ∀ vs, v ≠ .tuple vs ∧ v ≠ .listv vs) :
    eval (f + 1) env (.call name (init ++ [x]) true) = .err .dyn := by
  cases v with
  | tuple vs => exact absurd rfl (hv vs).1
  | listv vs => exact absurd rfl (hv vs).2
  | _ => simp [eval, h, hx]

theorem expand_error_propagates (f : Nat) (env : Env) (name : String) (init : List E) (x : E) (sig : FunSig) (t : Ty)
    (h : funSig name = some sig) (hx : eval f env x = .err t) :
    eval (f + 1) env (.call name (init ++ [x]) true) = .err .dyn := by
  simp [eval, h, hx]

/-- a null argument for a typed parameter is refused; conversion failures are errors -/
theorem null_for_typed_parameter (pt : PTy) (h : pt ≠ .any) : convArg pt .null = .err .dyn := by
  cases pt with
  | any => exact absurd rfl h
  | _ => rfl
theorem bool_for_number_parameter (b : Bool) : convArg .num (.bool b) = .err .dyn := rfl
theorem tuple_for_string_parameter (vs : List V) : convArg .str (.tuple vs) = .err .dyn := rfl
theorem number_for_string_parameter (n : Int) : convArg .str (.num n) = .ok (.str (intToStr n)) := rfl
theorem any_parameter_takes_everything (v : V) : convArg .any v = .ok v := by cases v <;> rfl

/-- one bad argument makes the whole call an error, wherever it stands -/
theorem bad_argument_is_error (sig : FunSig) (i : Nat) (pre post : List V) (v : V)
    (hv : convArg ((sig.params[i + pre.length]?).getD (sig.varParam.getD .any)) v = .err .dyn) :
    (convArgs sig i (pre ++ v :: post)).1 = .err .dyn := by
  -- the error case of `convArgs` returns the same pair wherever the error stands: induction on the pair
  have key : convArgs sig i (pre ++ v :: post) = (.err .dyn, []) := by
    induction pre generalizing i with
    | nil => simp only [List.nil_append, convArgs, show convArg ((sig.params[i]?).getD _) v = .err .dyn from hv]
    | cons p pre ih =>
      have hv' : convArg ((sig.params[i + 1 + pre.length]?).getD (sig.varParam.getD .any)) v = .err .dyn := by
        rw [Nat.add_right_comm]
        exact hv
      simp only [List.cons_append, convArgs, ih (i + 1) hv']
      cases convArg ((sig.params[i]?).getD (sig.varParam.getD .any)) p <;> rfl
  rw [key]

example : same (eval 6 [] (.call "add2" [.num 2, .str "40"] false)) (.ok (.num 42)) = true := by decide
example : same (eval 6 [("nums", .tuple [.num 2, .num 3])] (.call "add2" [.var "nums"] true)) (.ok (.num 5)) = true := by decide
example : same (eval 6 [("nums", .tuple [.num 2, .num 3])] (.call "add2" [.num 1, .var "nums"] true)) (.err .dyn) = true := by decide
example : same (eval 6 [] (.call "cat" [] false)) (.ok (.str "")) = true := by decide
example : same (eval 6 [] (.call "cat" [.str "a", .num 1, .bool true] false)) (.ok (.str "a1true")) = true := by decide
example : same (eval 6 [] (.call "cat" [.null] false)) (.err .dyn) = true := by decide
example : same (eval 6 [] (.call "pick" [.num 1, .str "a", .null] false)) (.ok .null) = true := by decide
example : same (eval 6 [] (.call "pick" [.num 2, .str "a", .null] false)) (.err .dyn) = true := by decide
example : same (eval 6 [] (.call "neg1" [.str "1"] false)) (.ok (.bool false)) = true := by decide
example : same (eval 6 [] (.call "neg1" [.str "TRUE"] false)) (.err .dyn) = true := by decide
example : same (eval 6 [] (.call "neg1" [.tuple []] true)) (.err .dyn) = true := by decide
example : arityOk ⟨[.num, .num], none⟩ 1 = false ∧ arityOk ⟨[.num, .num], none⟩ 3 = false ∧ arityOk ⟨[], some .str⟩ 0 = true := by decide

end Call

/-! ### flush heredocs: the common indentation is cut, a line that starts with an interpolation pins it to 0 -/
namespace Flush

/-- whether the token after `ps` starts a line -/
def nlAfter : Bool → List E → Bool
  | nl, [] => nl
  | _, p :: ps => nlAfter (match p with | .str s => endsNl s | _ => false) ps

/-- the literals that start a counted line -/
def counted : Bool → List E → List String
  | _, [] => []
  | nl, p :: ps =>
    let here := match p with | .str s => if nl && !blankLine s then [s] else [] | _ => []
    here ++ counted (match p with | .str s => endsNl s | _ => false) ps

theorem flushCut_zero (nl : Bool) (ps : List E) : flushCut 0 nl ps = ps := by
  induction ps generalizing nl with
  | nil => rfl
  | cons p ps ih =>
    unfold flushCut
    simp only [ih]
    congr 1
    split
    · simp
    · rfl

theorem flushMin_some_le (nl : Bool) (ps : List E) (j : Nat) : ∃ n, flushMin nl ps (some j) = some n ∧ n ≤ j := by
  induction ps generalizing nl j with
  | nil => exact ⟨j, rfl, Nat.le_refl _⟩
  | cons p ps ih =>
    -- the minimum goes on as `j`, `min j _` or `0`: never above `j`
    unfold flushMin
    split
    · split
      · split
        · exact ih _ j
        · obtain ⟨n, h, hle⟩ := ih _ (min j _)
          exact ⟨n, h, Nat.le_trans hle (Nat.min_le_left _ _)⟩
      · obtain ⟨n, h, hle⟩ := ih _ 0
        exact ⟨n, h, Nat.le_trans hle (Nat.zero_le _)⟩
    · exact ih _ j

theorem flushMin_zero (nl : Bool) (ps : List E) : flushMin nl ps (some 0) = some 0 := by
  obtain ⟨n, h, hle⟩ := flushMin_some_le nl ps 0
  rw [h, Nat.le_zero.mp hle]

theorem flushMin_append (nl : Bool) (a b : List E) (m : Option Nat) :
    flushMin nl (a ++ b) m = flushMin (nlAfter nl a) b (flushMin nl a m) := by
  induction a generalizing nl m with
  | nil => rfl
  | cons p a ih =>
    simp only [List.cons_append, flushMin, nlAfter]
    exact ih _ _

/-- the whole text is kept as written when some line starts with an interpolation (or a directive) -/
theorem interp_at_line_start_pins_zero (pre post : List E) (e : E) (hl : nlAfter true pre = true)
    (he : ∀ s, e ≠ .str s) : flushParts (pre ++ e :: post) = pre ++ e :: post := by
  have hm : flushMin true (pre ++ e :: post) none = some 0 := by
    rw [flushMin_append, hl]
    -- `e` starts a line and is no literal (`he`): the minimum becomes `some 0` here
    unfold flushMin
    simp only [if_true]
    exact flushMin_zero _ _
  unfold flushParts
  rw [hm]
  exact flushCut_zero _ _

theorem flushCut_length (n : Nat) (nl : Bool) (ps : List E) : (flushCut n nl ps).length = ps.length := by
  induction ps generalizing nl with
  | nil => rfl
  | cons p ps ih => simp [flushCut, ih]

theorem minO_le (m : Option Nat) (k n : Nat) (h : minO m k = some n) : n ≤ k ∧ ∀ j, m = some j → n ≤ j := by
  cases m with
  | none =>
    cases h
    exact ⟨Nat.le_refl _, nofun⟩
  | some j =>
    cases h
    exact ⟨Nat.min_le_right _ _, fun _ e => Option.some.inj e ▸ Nat.min_le_left _ _⟩

/-- only blanks are cut: the amount removed is at most the indentation of every counted line -/
theorem cut_at_most_indentation (nl : Bool) (ps : List E) (m : Option Nat) (n : Nat)
    (h : flushMin nl ps m = some n) : ∀ s ∈ counted nl ps, n ≤ leadBlanks s := by
  induction ps generalizing nl m with
  | nil => exact fun _ hs => nomatch hs
  | cons p ps ih =>
    intro s hs
    unfold flushMin at h
    simp only [counted, List.mem_append] at hs
    rcases hs with hs | hs
    · -- `s` is the literal `p`, it starts a line and counts: its indentation went into the minimum
      cases p with
      | str t =>
        by_cases hc : (nl && !blankLine t) = true
        · simp only [hc, if_true, List.mem_singleton] at hs
          subst hs
          simp only [Bool.and_eq_true, Bool.not_eq_true'] at hc
          simp only [hc.1, if_true, hc.2, Bool.false_eq_true, if_false] at h
          obtain ⟨j, hj⟩ : ∃ j, minO m (leadBlanks s) = some j := by cases m <;> exact ⟨_, rfl⟩
          obtain ⟨n', h', hle⟩ := flushMin_some_le (endsNl s) ps j
          rw [hj, h'] at h
          cases h
          exact Nat.le_trans hle (minO_le m _ j hj).1
        · simp [hc] at hs
      | _ => simp at hs
    · exact ih _ _ h s hs

theorem flush_cuts_blanks_only (ps : List E) (n : Nat) (h : flushMin true ps none = some n) :
    ∀ s ∈ counted true ps, n ≤ leadBlanks s := cut_at_most_indentation true ps none n h

/-- `<<-EOT` / `    a` / `  ${x}` / `    b` / `EOT`: two blanks go -/
def lits (ps : List E) : List String := ps.map fun e => match e with | .str s => s | _ => "?"
example : lits (flushParts [.str "    a\n", .str "  ", .var "x", .str "\n", .str "    b\n"])
    = ["  a\n", "", "?", "\n", "  b\n"] := by decide +kernel
/-- … and none when the second line starts with the interpolation -/
example : lits (flushParts [.str "    a\n", .var "x", .str "\n", .str "    b\n"])
    = ["    a\n", "?", "\n", "    b\n"] := by decide +kernel
/-- a blank line neither counts nor is touched -/
example : lits (flushParts [.str "  a ", .var "x", .str "\n", .str "\n", .str "   b\n"])
    = ["a ", "?", "\n", "\n", " b\n"] := by decide
example : nlAfter true [E.str "    a\n"] = true := by decide

end Flush

/-! ## precedence, associativity, parentheses (the parser of binary operators) -/
namespace Prec
open Havoc.Prec Havoc.Hx

/-- **Precedence, associativity, independence of parentheses.**  Whatever way an expression tree is
    written - the fewest parentheses the grammar needs or any number of redundant ones - the parser
    returns exactly that tree and consumes the whole input (with enough fuel, and then with any more). -/
theorem parse_spelling {e : Ex} {ts : List Tok} (h : Spelling 0 e ts) :
    ∃ f, ∀ g, f ≤ g → parseLevel g 0 ts = some (e, []) := by
  have hp : PL 0 (ts ++ []) (e, []) := spelling_parses h [] _ trivial (LP_stop trivial)
  rwa [List.append_nil] at hp

theorem parse_print (e : Ex) : ∃ f, ∀ g, f ≤ g → parseLevel g 0 (pr 0 e) = some (e, []) :=
  parse_spelling (pr_spelling e 0)

/-- two trees that are spelled the same are the same tree: a spelling determines its tree -/
theorem spelling_unique {e e' : Ex} {ts : List Tok} (h : Spelling 0 e ts) (h' : Spelling 0 e' ts) : e = e' := by
  obtain ⟨f, hf⟩ := parse_spelling h
  obtain ⟨f', hf'⟩ := parse_spelling h'
  have a := hf (max f f') (Nat.le_max_left _ _)
  have b := hf' (max f f') (Nat.le_max_right _ _)
  rw [a] at b
  exact (Prod.mk.inj (Option.some.inj b)).1

/-! kernel-checked instances: left associativity within a level, precedence across levels, parentheses -/
-- a - b - c  =  (a - b) - c
example : parseLevel 40 0 [.atom 1, .op .sub, .atom 2, .op .sub, .atom 3] =
    some (.bin .sub (.bin .sub (.atom 1) (.atom 2)) (.atom 3), []) := by decide
-- a + b * c == d && e  =  ((a + (b * c)) == d) && e
example : parseLevel 60 0 [.atom 1, .op .add, .atom 2, .op .mul, .atom 3, .op .eq, .atom 4, .op .and, .atom 5] =
    some (.bin .and (.bin .eq (.bin .add (.atom 1) (.bin .mul (.atom 2) (.atom 3))) (.atom 4)) (.atom 5), []) := by decide
-- a - (b - c) needs its parentheses, ((a)) - b does not
example : pr 0 (.bin .sub (.atom 1) (.bin .sub (.atom 2) (.atom 3))) = [.atom 1, .op .sub, .lp, .atom 2, .op .sub, .atom 3, .rp] := by decide
example : Spelling 0 (.bin .sub (.atom 1) (.atom 2)) [.lp, .lp, .atom 1, .rp, .rp, .op .sub, .atom 2] := by
  have a : Spelling 4 (.atom 1) [.lp, .lp, .atom 1, .rp, .rp] :=
    Spelling.paren 4 _ _ (Spelling.paren 0 _ _ (Spelling.atom 0 1))
  exact Spelling.bin 0 .sub _ _ _ _ (Nat.zero_le _) a (Spelling.atom 5 2)
/-! ### the tie to the source: the operator table and the shape of the recursion are regenerated -/

/-- the operation name of hclsyntax for each operator of the model -/
def goName : BinOp → String
  | .or => "OpLogicalOr" | .and => "OpLogicalAnd" | .eq => "OpEqual" | .ne => "OpNotEqual"
  | .lt => "OpLessThan" | .le => "OpLessThanOrEqual" | .gt => "OpGreaterThan" | .ge => "OpGreaterThanOrEqual"
  | .add => "OpAdd" | .sub => "OpSubtract" | .mul => "OpMultiply" | .div => "OpDivide" | .mod => "OpModulo"

/-- (regenerated) `binaryOps` has the model's six groups, every operator sits in the group the model gives it,
    and no group holds anything else -/
theorem levels_as_modelled :
    Gen.HclOps.levels.length = nLevels ∧
    (∀ o : BinOp, (Gen.HclOps.levels.getD (lvl o) []).any (fun p => p.2 == goName o) = true) ∧
    (Gen.HclOps.levels.map List.length).sum = 13 := by
  refine ⟨by decide, ?_, by decide⟩
  intro o; cases o <;> decide

/-- (regenerated) both operands of an operator are parsed with the table of the tighter levels only
    (`remaining`): operators of one level combine to the left; the condition of `? :` starts at the lowest level -/
theorem recursion_as_modelled :
    Gen.HclOps.recursionArgs = ["remaining", "remaining"] ∧ Gen.HclOps.ternaryArgs = ["binaryOps"] := by decide

end Prec

end Havoc.C18
