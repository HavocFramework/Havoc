import HavocVerif.Model.Write
/-
  C20 — Rewriting a configuration file never damages it.
  The edit operations of hclwrite on a body, as a function on item lists (Model/Write.lean):
  each operation makes its change and no other.  "No other" is said once per operation, as a frame
  theorem over filters: the items that a predicate keeps are the same, in the same order, before
  and after, for every predicate that rejects what the operation is about (`setAttr_filter`,
  `rmAttr_filter`).  Values of other attributes, blocks, comments are such filters.
-/
namespace Havoc.C20
open Havoc.Wr

/-! ### what is observed of a body: the value of a name, the items of a kind in their order -/

theorem lookup_append (n : String) (a b : List Item) :
    lookup n (a ++ b) = (lookup n a).orElse fun _ => lookup n b := by
  induction a with
  | nil => simp [lookup]
  | cons x xs ih =>
    cases x with
    | attr m v =>
      simp only [List.cons_append, lookup]
      split
      · simp
      · exact ih
    | _ => exact ih

theorem lookup_of_filter_eq (k : String) {a b : List Item}
    (h : a.filter (·.isAttr k) = b.filter (·.isAttr k)) : lookup k a = lookup k b := by
  have lookup_filter : ∀ l : List Item, lookup k (l.filter (·.isAttr k)) = lookup k l := by
    intro l
    induction l with
    | nil => rfl
    | cons x xs ih =>
      cases x with
      | attr m v =>
        rw [List.filter_cons]
        split
        · next e => simp [lookup, show (m == k) = true from e]
        · next e => simp [lookup, show ¬ (m == k) = true from e, ih]
      | _ => exact ih
  rw [← lookup_filter a, h, lookup_filter b]

theorem isAttr_other {k n : String} (hk : (k == n) = false) (w : String) : (Item.attr n w).isAttr k = false :=
  (BEq.comm (a := n)).trans hk

/-! ### SetAttributeValue -/

/-- setting `n` keeps every item other than the attributes named `n`, in order -/
theorem setAttr_filter (n v : String) (keep : Item → Bool) (hn : ∀ w, keep (.attr n w) = false) (b : List Item) :
    (setAttr n v b).filter keep = b.filter keep := by
  have setIn_filter : (setIn n v b).filter keep = b.filter keep := by
    induction b with
    | nil => rfl
    | cons x xs ih =>
      cases x with
      | attr m w =>
        unfold setIn
        split
        · next e =>
          cases eq_of_beq e
          simp [hn]
        · simp [List.filter_cons, ih]
      | _ => simp [setIn, List.filter_cons, ih]
  unfold setAttr
  split
  · exact setIn_filter
  · simp [hn]

theorem setIn_lookup_same (n v : String) (b : List Item) (h : hasAttr n b = true) : lookup n (setIn n v b) = some v := by
  induction b with
  | nil => cases h
  | cons x xs ih =>
    cases x with
    | attr m w =>
      unfold setIn
      split
      · next e => simp [lookup, e]
      · next e =>
        simp only [lookup, e]
        exact ih (by simpa [hasAttr, lookup, e] using h)
    | _ => exact ih h

/-- after setting an attribute, re-parsing shows that value … -/
theorem set_then_get (n v : String) (b : List Item) : lookup n (setAttr n v b) = some v := by
  unfold setAttr
  split
  · next h => exact setIn_lookup_same n v b h
  · next h =>
    have : lookup n b = none := by simpa [hasAttr] using h
    simp [lookup_append, this, lookup]

/-- … and every other attribute keeps its value -/
theorem set_keeps_others (n v k : String) (b : List Item) (hk : (k == n) = false) : lookup k (setAttr n v b) = lookup k b :=
  lookup_of_filter_eq k (setAttr_filter n v _ (isAttr_other hk) b)

/-- setting touches neither comments nor blocks nor the order of anything: the non-attribute
    items are the same, in the same order -/
def nonAttrs : List Item → List Item
  | [] => []
  | .attr _ _ :: rest => nonAttrs rest
  | x :: rest => x :: nonAttrs rest

def notAttr : Item → Bool
  | .attr _ _ => false
  | _ => true

theorem nonAttrs_eq_filter (b : List Item) : nonAttrs b = b.filter notAttr := by
  induction b with
  | nil => rfl
  | cons x xs ih => cases x <;> simp [nonAttrs, notAttr, List.filter_cons, ih]

theorem set_keeps_comments_and_blocks (n v : String) (b : List Item) : nonAttrs (setAttr n v b) = nonAttrs b := by
  rw [nonAttrs_eq_filter, nonAttrs_eq_filter, setAttr_filter n v notAttr fun _ => rfl]

/-! ### AppendNewBlock -/

def blocksOf : List Item → List Item
  | [] => []
  | .block ty ls body :: rest => .block ty ls body :: blocksOf rest
  | _ :: rest => blocksOf rest

theorem blocksOf_eq_filter (b : List Item) : blocksOf b = b.filter Item.isBlock := by
  induction b with
  | nil => rfl
  | cons x xs ih => cases x <;> simp [blocksOf, Item.isBlock, List.filter_cons, ih]

/-- the new block is the last one and empty; nothing else changes -/
theorem addBlock_appends (ty : String) (ls : List String) (b : List Item) :
    addBlock ty ls b = b ++ [.block ty ls []] ∧ blocksOf (addBlock ty ls b) = blocksOf b ++ [.block ty ls []] ∧
    ∀ k, lookup k (addBlock ty ls b) = lookup k b := by
  refine ⟨rfl, by simp [addBlock, blocksOf_eq_filter, Item.isBlock], ?_⟩
  intro k
  simp only [addBlock, lookup_append]
  cases lookup k b <;> rfl

/-! ### RemoveAttribute -/

theorem dropTrail_filter (keep : Item → Bool) (ht : ∀ t, keep (.trail t) = false) (l : List Item) :
    (dropTrail l).filter keep = l.filter keep := by
  cases l with
  | nil => rfl
  | cons x xs => cases x <;> simp [dropTrail, ht]

/-- removing `n` keeps every item other than the attributes named `n` and the comments that belong to an
    item (lead and line comments), in order; `pending` holds lead comments only -/
theorem rmAttrGo_filter (n : String) (keep : Item → Bool) (hl : ∀ t, keep (.lead t) = false)
    (ht : ∀ t, keep (.trail t) = false) (hn : ∀ v, keep (.attr n v) = false) :
    ∀ (b pending : List Item), pending.filter keep = [] → (rmAttrGo n pending b).filter keep = b.filter keep := by
  intro b
  induction b with
  | nil => exact fun p hp => hp
  | cons x xs ih =>
    intro p hp
    cases x with
    | lead t => simp [rmAttrGo, hl, ih (p ++ [.lead t]) (by simp [hp, hl])]
    | attr m v =>
      unfold rmAttrGo
      split
      · next e =>
        cases eq_of_beq e
        simp [dropTrail_filter keep ht, hn]
      · simp [List.filter_cons, hp, ih [] rfl]
    | _ => simp [rmAttrGo, List.filter_cons, hp, ih [] rfl]

theorem rmAttr_filter (n : String) (keep : Item → Bool) (hl : ∀ t, keep (.lead t) = false)
    (ht : ∀ t, keep (.trail t) = false) (hn : ∀ v, keep (.attr n v) = false) (b : List Item) :
    (rmAttr n b).filter keep = b.filter keep :=
  rmAttrGo_filter n keep hl ht hn b [] rfl

/-- removing an attribute leaves every other attribute with its value -/
theorem remove_keeps_others (n k : String) (b : List Item) (hk : (k == n) = false) : lookup k (rmAttr n b) = lookup k b :=
  lookup_of_filter_eq k (rmAttr_filter n _ (fun _ => rfl) (fun _ => rfl) (isAttr_other hk) b)

/-- removing keeps every block -/
theorem remove_keeps_blocks (n : String) (b : List Item) : blocksOf (rmAttr n b) = blocksOf b := by
  rw [blocksOf_eq_filter, blocksOf_eq_filter, rmAttr_filter n _ (fun _ => rfl) (fun _ => rfl) (fun _ => rfl)]

/-- every attribute name occurs once -/
def uniqueNames : List Item → Prop
  | [] => True
  | .attr m _ :: rest => lookup m rest = none ∧ uniqueNames rest
  | _ :: rest => uniqueNames rest

theorem lookup_dropTrail (k : String) (l : List Item) : lookup k (dropTrail l) = lookup k l := by
  cases l with
  | nil => rfl
  | cons x xs => cases x <;> rfl

/-- after removing an attribute, re-parsing no longer shows it -/
theorem rmAttrGo_gone (n : String) : ∀ (b pending : List Item), lookup n pending = none → uniqueNames b →
    lookup n (rmAttrGo n pending b) = none := by
  intro b
  induction b with
  | nil => exact fun p hp _ => hp
  | cons x xs ih =>
    intro p hp hu
    cases x with
    | lead t => exact ih _ (by simp [lookup_append, hp, lookup]) hu
    | attr m v =>
      unfold rmAttrGo
      split
      · next e =>
        cases eq_of_beq e
        rw [lookup_dropTrail]
        exact hu.1
      · next e => simp [lookup_append, hp, lookup, e, ih [] rfl hu.2]
    | _ => simp [rmAttrGo, lookup_append, hp, lookup, ih [] rfl hu]

theorem remove_then_absent (n : String) (b : List Item) (hu : uniqueNames b) : lookup n (rmAttr n b) = none :=
  rmAttrGo_gone n b [] rfl hu

/-! ### edits of a body that does not exist change nothing -/
theorem missing_body_is_noop (b : List Item) (p : List Nat) (n v : String)
    (h : atPath (setAttr n v) p b = none) : apply b (.set p n v) = b := by simp [apply, h]

/-! non-vacuity / examples -/
example : rmAttr "a" [.free "c0", .lead "c1", .lead "c2", .attr "a" "1", .trail "t", .lead "c3", .attr "b" "2"]
    = [.free "c0", .lead "c3", .attr "b" "2"] := by simp [rmAttr, rmAttrGo, dropTrail]
example : setAttr "b" "9" [.attr "a" "1", .lead "c", .attr "b" "2", .trail "t"] = [.attr "a" "1", .lead "c", .attr "b" "9", .trail "t"] := by simp [setAttr, hasAttr, lookup, setIn]
example : rmBlock 1 [.block "x" [] [], .lead "c", .block "y" ["l"] [.attr "a" "1"], .attr "z" "0"] = [.block "x" [] [], .attr "z" "0"] := by simp [rmBlock, rmBlockGo, dropTrail]

end Havoc.C20
