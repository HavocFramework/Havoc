import HavocVerif.Lemmas.Queue
import HavocVerif.Lemmas.QueueConc
import HavocVerif.Lemmas.Locks
import HavocVerif.Gen.JobCodec
/-
  C04 — Every queued task is delivered exactly once, in order, in bounded batches.
  (Sequential histories = all interleavings of atomic enqueue / check-in / clear
  operations; the step granularity at which the real code is atomic is discussed
  in DESIGN.md §5 C04 and checked through Gen.LockFacts.)
-/
namespace Havoc.C04
open Havoc

variable {α : Type} (size : α → Nat)

/-- Exactly once, in order: after ANY history of enqueues and check-ins (asking or
    not), what was handed out followed by what is still queued is exactly what was
    queued, in queueing order. -/
theorem fifo_refinement (ops : List (QOp α)) (hops : ∀ op ∈ ops, op ≠ QOp.clear) :
    (qrun size ops).delivered ++ (qrun size ops).queue = (qrun size ops).enqueued :=
  List.foldlRecOn ops (qstep size) (motive := fun s => s.delivered ++ s.queue = s.enqueued) rfl
    fun s h op hop => qstep_inv size s op (hops op hop) h

/-- a check-in that asks gets the no-job reply exactly when nothing is queued -/
theorem nojob_iff_empty (q : List α) : (checkinBy size true q).1 = none ↔ q = [] := by
  cases q <;> simp [checkinBy]

/-- a check-in that does not ask never takes anything off the queue -/
theorem not_asked_keeps (q : List α) : checkinBy size false q = (none, q) := by
  simp [checkinBy]

theorem batch_nonempty (q : List α) (h : q ≠ []) : (getQueuedBy size maxResponse q).1 ≠ [] :=
  getQueuedBy_nonempty size maxResponse q h

/-- a reply stays under the 30 MB limit unless it is one single task -/
theorem batch_bound (q : List α) :
    (((getQueuedBy size maxResponse q).1).map size).sum < maxResponse
      ∨ (getQueuedBy size maxResponse q).1.length ≤ 1 :=
  getQueuedBy_bound size maxResponse q

/-- a single task at or over the limit is still delivered, alone -/
theorem big_job_alone (j : α) (js : List α) (h : size j ≥ maxResponse) :
    getQueuedBy size maxResponse (j :: js) = ([j], js) :=
  getQueuedBy_big_alone size maxResponse j js h

/-- batches are maximal: the loop stops only where the next task would reach the limit -/
theorem batch_maximal (q : List α) :
    countJobsBy size maxResponse q 0 0 = q.length ∨
      ∃ j, q[countJobsBy size maxResponse q 0 0]? = some j ∧
        0 + ((q.take (countJobsBy size maxResponse q 0 0)).map size).sum + size j ≥ maxResponse :=
  countJobsBy_maximal size maxResponse q 0

/-- the limit used is the one in commands.go (regenerated), 30 MiB -/
theorem limit_is_30MiB : maxResponse = 30 * 1024 * 1024 := by decide

/-- a pushed file: the chunks concatenate to exactly the file, for every file length
    (incl. 0 and exact multiples of the chunk size) -/
theorem chunks_concat (chunk : Nat) (hc : chunk > 0) (file : Bytes) :
    (memFileChunks chunk file).flatten = file := by
  simpa [memFileChunks, chunkRanges, List.map_map, Function.comp_def] using
    chunks_tile chunk hc file (file.length + 1) 0 (by omega)

theorem chunks_bounded (chunk : Nat) (file : Bytes) :
    ∀ c ∈ memFileChunks chunk file, c.length ≤ chunk := by
  intro c hc
  simp only [memFileChunks, chunkRanges, List.map_map, List.mem_map, Function.comp_def] at hc
  obtain ⟨s, _, rfl⟩ := hc
  simp
  omega

/-- every chunk job carries the same file id and the total size -/
theorem chunks_same_id (chunk fileId : Nat) (file : Bytes) (reqs : List Nat) :
    ∀ j ∈ memFileJobs chunk fileId file reqs,
      j.command = Gen.Consts.COMMAND_MEM_FILE ∧ j.data.take 2 = [.uint32 fileId, .uint64 file.length] := by
  intro j hj
  simp only [memFileJobs, List.mem_map] at hj
  obtain ⟨⟨c, i⟩, _, rfl⟩ := hj
  simp

/-! ## concurrency -/

/-- **Exactly once and in order under every schedule.**  Threads (any number of producers, the
    checking-in listener, …) run their own programs; `sched` is an arbitrary schedule of their
    atomic operations.  Then what has been handed out, followed by what is still queued, is the
    list of queued tasks in the order the queueing took effect, and the tasks of every producer
    appear in it exactly as that producer queued them. -/
theorem fifo_all_schedules {γ : Type} (size : Nat × γ → Nat) (ts : List (List (QOp (Nat × γ))))
    (sched : List Nat) (hclr : ∀ t ∈ ts, QOp.clear ∉ t) (htag : WellTagged ts) :
    let s := qrun size (interleave ts sched)
    s.delivered ++ s.queue = enqueuedOf (interleave ts sched) ∧
    ∀ i, (s.delivered ++ s.queue).filter (fun x => x.1 == i) = enqueuedOf (executed ts sched i) := by
  have hops : ∀ op ∈ interleave ts sched, op ≠ QOp.clear := by
    intro op hop e
    obtain ⟨t, ht, hin⟩ := mem_interleave ts sched op hop
    exact hclr t ht (e ▸ hin)
  have h1 := fifo_refinement size (interleave ts sched) hops
  rw [qrun_enqueued] at h1
  refine ⟨h1, fun i => ?_⟩
  rw [h1]; exact enq_filter ts sched i htag

open Gen.LockFacts in
/-- (regenerated from the source) every access to an agent's job queue and to its request-id record,
    in every package that touches them, happens with the agent's `JobMtx` held - so each queue
    operation is one atomic step of the schedules above -/
theorem queue_accesses_guarded :
    unguardedIn ["agent", "handlers", "server", "service", "socks"] ["JobQueue", "Tasks"] = [] := by
  rw [unguardedIn_eq, unguardedAll_eq]
  decide

/-- regenerated (`Gen.TableWrites`): every assignment to these tables anywhere in the teamserver is an append at the end,
    a delete of one index, the hand-out split, `nil` / an empty literal, or a slice built up freshly in a local - never a
    re-slice to length 0 or a filter in place, whose later appends would overwrite what an earlier reader still holds.
    The models' immutable lists are faithful to the Go slices only under this fact. -/
theorem queue_writes_value_like :
    aliasingWrites ["JobQueue", "Tasks"] = [] ∧ writtenTables ["JobQueue", "Tasks"] = ["JobQueue", "Tasks"] ∧ Gen.TableWrites.reslicesToZero = [] :=
  ⟨aliasingWrites_eq_nil _, by decide, rfl⟩

/-- the same on every control-flow path separately (regenerated `Gen.LockPaths`): no early return, branch or case of
    any of these functions leaves a mutex held that a `defer` does not release -/
theorem agent_locks_balanced_every_path : pathsUnbalancedIn ["agent", "handlers"] = [] :=
  pathsUnbalancedIn_eq_nil _

/-- … and no function returns with a mutex held -/
theorem agent_locks_balanced : unbalancedIn ["agent", "handlers"] = [] := unbalancedIn_eq_nil _

/-! ### the lock is necessary: without it there are schedules that lose or repeat a task -/

/-- two producers load the same header; the second store overwrites the first: a task is lost -/
theorem unlocked_lost_update :
    let s := frun (α := Nat) [.load 1, .load 2, .storeAppend 1 10, .storeAppend 2 20]
    s.enqueued = [10, 20] ∧ s.delivered ++ s.cell = [20] := by decide

/-- a producer's store after the listener's take brings a delivered task back: it goes out twice -/
theorem unlocked_duplicate :
    let s := frun (α := Nat) [.load 0, .storeAppend 0 7, .load 1, .load 9, .storeTake 9 1, .storeAppend 1 8,
                              .load 9, .storeTake 9 2]
    s.enqueued = [7, 8] ∧ s.delivered = [7, 7, 8] := by decide

/-! non-vacuity: a concrete two-producer / one-consumer schedule -/
example :
    let ts : List (List (QOp (Nat × Nat))) :=
      [[.enqueue (0, 1), .enqueue (0, 2)], [.enqueue (1, 1), .enqueue (1, 2)], [.checkin true, .checkin true]]
    let s := qrun (fun _ => 1) (interleave ts [1, 0, 2, 0, 1, 2, 2])
    s.delivered = [(1, 1), (0, 1), (0, 2), (1, 2)] ∧ WellTagged ts := by
  refine ⟨by decide, ?_⟩
  intro i t hi x hx
  match i, hi with
  | 0, hi => simp at hi; subst hi; simp at hx; rcases hx with rfl | rfl <;> rfl
  | 1, hi => simp at hi; subst hi; simp at hx; rcases hx with rfl | rfl <;> rfl
  | 2, hi => simp at hi; subst hi; simp at hx
  | n + 3, hi => simp at hi

/-! non-vacuity -/
example : (qrun (fun (n : Nat) => n) [.enqueue 5, .enqueue 31457280, .checkin true, .enqueue 1,
    .checkin false, .checkin true]).delivered = [5, 31457280] := by decide
example : memFileChunks 4 [1, 2, 3, 4, 5, 6, 7, 8] = [[1, 2, 3, 4], [5, 6, 7, 8], []] := by decide

/-- a mutex guards a table only when both belong to the same object: the pivot wrapper is appended to the PARENT's queue,
    so it is the parent's mutex that has to be held -/
theorem another_objects_mutex_does_not_guard :
    guardsExpr "a.JobMtx" "pivots.Parent.JobQueue" = false ∧ guardsExpr "pivots.Parent.JobMtx" "pivots.Parent.JobQueue" = true ∧
    guardsExpr "a.JobMtx" "a.Tasks" = true ∧ guardsExpr "a.SocksCliMtx" "a.JobQueue" = false := by decide +kernel
example : unguarded ["JobQueue"] [.lock "a.JobMtx", .access "pivots.Parent.JobQueue", .unlock "a.JobMtx"] = ["JobQueue"] := by decide +kernel

/-! ### The size accounting and the cut of `GetQueuedJobs`, regenerated from agent.go on every run -/

/-- what the type switch of `GetQueuedJobs` adds to `JobsSize` for one argument, read from the extracted table -/
def tableQueueSize (a : Arg) : Option Nat :=
  (Gen.JobCodec.queueCases.find? (·.1 == a.goType)).map fun (_, k, l) => k + if l then a.goLen else 0

/-- for every argument the model's `Arg.queueSize` is what the source's type switch adds (all eleven types have a
    case; the two variable-length ones add `len` of the argument itself) -/
theorem queueSize_is_source_table (a : Arg) : tableQueueSize a = some a.queueSize := by
  cases a <;> rfl

/-- the loops and the cut: the batch bound is tested after a job's arguments have been added and before the job is
    counted (`countJobsBy`), a non-empty queue always hands out one job (`numJobsBy`), the batch is the first
    `NumJobs` entries and the queue keeps the rest (`getQueuedBy`) -/
theorem getQueuedJobs_transcribed :
    Gen.JobCodec.queueLoops = ["for _, job := range a.JobQueue", "for i := range job.Data", "switch job.Data[i].(type)"] ∧
    Gen.JobCodec.queueAfterArgs = ["if JobsSize >= DEMON_MAX_RESPONSE_LENGTH { break }", "NumJobs++"] ∧
    Gen.JobCodec.queueTail = ["if len(a.JobQueue) > 0 && NumJobs == 0 { NumJobs = 1 }",
      "Jobs, a.JobQueue = a.JobQueue[:NumJobs], a.JobQueue[NumJobs:]", "return Jobs"] :=
  ⟨rfl, rfl, rfl⟩

example : tableQueueSize (.str [104, 105]) = some 6 ∧ tableQueueSize (.uint64 7) = some 8 := by decide

end Havoc.C04
