import HavocVerif.Lemmas.StrLit
import HavocVerif.Model.Profile
/-
  C14 — A profile file means what it says.
  Proved here: the string-literal layer of the dialect (every byte string has a spelling that reads
  back as exactly that string; the readable spelling does; escaped template markers), and facts
  about the regenerated profile schema.  The file-level round trip (write any configuration of the
  schema in any accepted spelling, load it, get it back; one-fault profiles are refused with a
  located error) is decided by the correspondence run against the real loader, with `expected`
  (Model/Profile.lean) as the oracle.
-/
namespace Havoc.C14
open Havoc Havoc.StrLit Havoc.Profile

/-- every string (every byte sequence) can be written, and means exactly itself -/
theorem every_string_has_a_spelling (v : Bytes) : unquote (v.length + 1) (spellHex v) = some v := by
  simpa using unquote_spellHex v 0

/-- raw text with the escapes \n \r \t \" \\ means exactly the string it spells
    (strings without `$` and `%`; those two are covered by the next three statements) -/
theorem readable_spelling (v : Bytes) (h : NoTemplateChar v) : unquote (v.length + 1) (spellPlain v) = some v := by
  simpa using unquote_spellPlain v h 0

theorem escaped_dollar_brace (s : List UInt8) (f : Nat) :
    unquote (f + 1) (36 :: 36 :: 123 :: s) = (unquote f s).map ([36, 123] ++ ·) := rfl
theorem escaped_percent_brace (s : List UInt8) (f : Nat) :
    unquote (f + 1) (37 :: 37 :: 123 :: s) = (unquote f s).map ([37, 123] ++ ·) := rfl
theorem unescaped_marker_is_not_text (s : List UInt8) (f : Nat) : unquote (f + 1) (36 :: 123 :: s) = none := rfl

/-- the two spellings agree wherever both apply -/
theorem spellings_agree (v : Bytes) (h : NoTemplateChar v) :
    unquote (v.length + 1) (spellHex v) = unquote (v.length + 1) (spellPlain v) := by
  rw [every_string_has_a_spelling, readable_spelling v h]

/-- a bare quote, a bare newline and an unknown escape are refused -/
example : unquote 5 [97, 34, 98] = none := by decide
example : unquote 5 [97, 10] = none := by decide
example : unquote 5 [92, 113] = none := by decide
/-- `\x414|` : the greedy hexadecimal run decodes pairs and drops the odd digit -/
example : unquote 9 [92, 120, 52, 49, 52, 124] = some [65, 124] := by decide

def allFields : List (String × Field) :=
  Gen.ProfileSchema.structs.flatMap fun (s, fs) => fs.map fun (a, b, c, d) => (s, ⟨a, b, c, d⟩)

/-- every block field refers to a struct of the schema -/
theorem blocks_resolve :
    (allFields.all fun (_, f) => f.kind != "block" || (fieldsOf (structOfType f.goType)).isSome) = true := by decide +kernel

/-- within a struct no yaotl name is used twice -/
theorem names_unique :
    (Gen.ProfileSchema.structs.all fun (_, fs) => ((fs.map fun (_, n, _, _) => n).eraseDups.length == fs.length)) = true := by decide +kernel

/-- the required settings of the profile (a change of this list changes what must be rejected) -/
theorem required_settings :
    (allFields.filter fun (_, f) => f.kind == "attr").map (fun (s, f) => s ++ "." ++ f.name) =
    ["WebHookDiscordConfig.Url", "ServiceConfig.Endpoint", "ServiceConfig.Password", "ServerProfile.Host", "ServerProfile.Port",
     "UsersBlock.Password", "ListenerHTTP.Name", "ListenerHTTP.Hosts", "ListenerHTTP.HostBind", "ListenerHTTP.HostRotation",
     "ListenerHTTP.PortBind", "ListenerSMB.Name", "ListenerSMB.PipeName", "ListenerExternal.Name", "ListenerExternal.Endpoint",
     "ListenerHttpProxy.Host", "ListenerHttpProxy.Port", "ListenerHttpCerts.Cert", "ListenerHttpCerts.Key"] := by decide +kernel

/-- the only labelled block is `user "<name>"` -/
theorem labels : (allFields.filter fun (_, f) => f.kind == "label").map (fun (s, f) => s ++ "." ++ f.name) = ["UsersBlock.Name"] := by decide +kernel

/-- loading keeps every written entry … -/
theorem written_entries_kept (es : List Entry) (e : Entry) (h : e ∈ es) : e ∈ expected es := by
  simp [expected, h]

theorem zeroOf_cases (t : String) : zeroOf t = "s-" ∨ zeroOf t = "i0" ∨ zeroOf t = "b0" ∨ zeroOf t = "m()" ∨ zeroOf t = "l()" := by
  unfold zeroOf
  split
  · exact .inl rfl
  split
  · exact .inr (.inl rfl)
  split
  · exact .inr (.inr (.inl rfl))
  split
  · exact .inr (.inr (.inr (.inl rfl)))
  · exact .inr (.inr (.inr (.inr rfl)))

/-- … and what it adds are zero values of attributes the file does not mention -/
theorem added_are_defaults (es : List Entry) (b : String) (e : Entry) (h : e ∈ defaultsFor es b) :
    ¬ es.any (·.path == e.path) = true ∧ (e.val = "s-" ∨ e.val = "i0" ∨ e.val = "b0" ∨ e.val = "m()" ∨ e.val = "l()") := by
  unfold defaultsFor at h
  split at h
  · simp at h
  · simp only [List.mem_filterMap] at h
    obtain ⟨f, _, hf⟩ := h
    split at hf
    · cases hf
    · split at hf
      · cases hf
      · rename_i hno
        cases hf
        exact ⟨by simpa using hno, zeroOf_cases _⟩

example : structAt "HavocConfig" [⟨"Listeners", none⟩, ⟨"Http", some 0⟩, ⟨"Proxy", none⟩] = some "ListenerHttpProxy" := by decide +kernel
example : structAt "HavocConfig" [⟨"Listeners", none⟩, ⟨"Http", none⟩, ⟨"Proxy", none⟩] = none := by decide +kernel

end Havoc.C14
