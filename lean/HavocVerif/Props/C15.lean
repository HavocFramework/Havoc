import HavocVerif.Model.Socks
import HavocVerif.Lemmas.Locks
import HavocVerif.Model.PortFwd
/-
  C15 — The SOCKS5 and port-forward relays speak the protocol and move bytes intact.
-/
namespace Havoc.C15
open Havoc

theorem readN_append (n : Nat) (a r : Bytes) (h : a.length = n) : readN n (a ++ r) = .ok a r := by
  subst h; simp [readN]

theorem beNat_portBytes (port : Nat) (h : port < 65536) : beNat (portBytes port) = port := by
  simp [portBytes, beNat, UInt8.toNat_ofNat']; omega

def validAddr (atyp : UInt8) (addr : Bytes) : Prop :=
  (atyp = 1 ∧ addr.length = 4) ∨ (atyp = 4 ∧ addr.length = 16) ∨ (atyp = 3 ∧ addr.length < 256)

/-- a SOCKS5 request as a client writes it (RFC 1928 §4) -/
def encodeReq (req : SocksReq) : Bytes :=
  [5, req.command, 0, req.atyp] ++
    ((if req.atyp = 3 then [UInt8.ofNat req.addr.length] else []) ++ (req.addr ++ portBytes req.port))

def greeting (methods : Bytes) : Bytes := [5, UInt8.ofNat methods.length] ++ methods

theorem subNegotiation_greeting (methods rest : Bytes) (h : methods.length < 256) :
    subNegotiation (greeting methods ++ rest) = .ok methods rest := by
  simp only [subNegotiation, greeting, List.cons_append, List.nil_append, readByte, Rd.bind, ne_eq, not_true_eq_false,
    if_false, UInt8.toNat_ofNat_of_lt' h]
  exact readN_append _ methods rest rfl

/-- method selection: no-authentication when offered, refusal (0xFF, nothing else) otherwise -/
theorem negotiation_rfc1928 (methods rest : Bytes) (h : methods.length < 256) :
    (methods.contains 0 = false → socksFrontEnd (greeting methods ++ rest) = .dropped [5, 0xff]) ∧
    (methods.contains 0 = true → ∃ s, (socksFrontEnd (greeting methods ++ rest) = .waiting s ∨
        socksFrontEnd (greeting methods ++ rest) = .dropped s ∨
        ∃ q r, socksFrontEnd (greeting methods ++ rest) = .connect s q r) ∧ s.take 2 = [5, 0]) := by
  unfold socksFrontEnd
  rw [subNegotiation_greeting methods rest h]
  constructor
  · intro hc
    simp only [hc, Bool.not_false, if_true]
  · intro hc
    simp only [hc, Bool.not_true, Bool.false_eq_true, if_false]
    cases readSocksHeader rest with
    | eof => exact ⟨[5, 0], Or.inl rfl, rfl⟩
    | bad w => exact ⟨[5, 0], Or.inr (Or.inl rfl), rfl⟩
    | ok req r2 =>
      simp only
      by_cases hcmd : req.command = 1
      · rw [if_neg (by simpa using hcmd)]; exact ⟨_, Or.inr (Or.inr ⟨_, _, rfl⟩), rfl⟩
      · rw [if_pos hcmd]; exact ⟨_, Or.inr (Or.inl rfl), rfl⟩

theorem readSocksHeader_encode (req : SocksReq) (rest : Bytes) (hv : validAddr req.atyp req.addr)
    (hp : req.port < 65536) : readSocksHeader (encodeReq req ++ rest) = .ok req rest := by
  obtain ⟨cmd, atyp, addr, port⟩ := req
  have hb := beNat_portBytes port hp
  have tail : readN 2 (portBytes port ++ rest) = .ok (portBytes port) rest := readN_append 2 _ _ rfl
  have ha : ∀ n, addr.length = n → readN n (addr ++ (portBytes port ++ rest)) = .ok addr (portBytes port ++ rest) :=
    fun n h => readN_append n _ _ h
  rcases hv with ⟨rfl, hl⟩ | ⟨rfl, hl⟩ | ⟨rfl, hl⟩
  · simp [readSocksHeader, encodeReq, readByte, Rd.bind, ha 4 hl, tail, hb]
  · simp [readSocksHeader, encodeReq, readByte, Rd.bind, ha 16 hl, tail, hb]
  · simp [readSocksHeader, encodeReq, readByte, Rd.bind, UInt8.toNat_ofNat_of_lt' hl, ha _ rfl, tail, hb]

/-- the exact address type, address and port reach the agent; only CONNECT is accepted -/
theorem request_reported_exactly (methods : Bytes) (req : SocksReq) (rest : Bytes)
    (hm : methods.length < 256) (h0 : methods.contains 0 = true) (hv : validAddr req.atyp req.addr)
    (hp : req.port < 65536) :
    socksFrontEnd (greeting methods ++ (encodeReq req ++ rest)) =
      if req.command = 1 then .connect [5, 0] req rest
      else .dropped [5, 0, 5, 7, 0, 1, 0, 0, 0, 0, 0, 0] := by
  unfold socksFrontEnd
  rw [subNegotiation_greeting methods _ hm]
  simp only [h0, Bool.not_true, Bool.false_eq_true, if_false, readSocksHeader_encode req rest hv hp]
  by_cases hc : req.command = 1 <;> simp [hc]

/-- replies are well formed: a client reading one gets back exactly the reply code, address
    type, address and port (domain lengths 0…255 included) -/
theorem reply_wellformed (rep atyp : UInt8) (addr : Bytes) (port : Nat) (hv : validAddr atyp addr) (hp : port < 65536) :
    parseReply (createResponse rep atyp addr port) = some (rep, atyp, addr, port) := by
  have hb := beNat_portBytes port hp
  have hl2 : (portBytes port).length = 2 := rfl
  have hlt : ∀ n, addr.length = n → ¬ addr.length + 2 < n := fun n h => by omega
  rcases hv with ⟨rfl, hl⟩ | ⟨rfl, hl⟩ | ⟨rfl, hl⟩
  · simp [parseReply, createResponse, hlt 4 hl, List.take_left' hl, List.drop_left' hl, hl2, hb]
  · simp [parseReply, createResponse, hlt 16 hl, List.take_left' hl, List.drop_left' hl, hl2, hb]
  · simp [parseReply, createResponse, UInt8.toNat_ofNat_of_lt' hl, hlt _ rfl, hl2, hb]

/-- failure replies carry the RFC code that corresponds to the agent's error -/
theorem failure_codes : failureReply 10060 = 6 ∧ failureReply 10061 = 5 ∧ failureReply 10065 = 4 ∧
    failureReply 10051 = 3 ∧ failureReply 1234 = 1 := by decide

/-- relayed data does not depend on how it was chunked: the payloads of the write tasks,
    in order, concatenate to the stream -/
theorem relay_chunking_independent (chunks chunks' : List Bytes) (h : chunks.flatten = chunks'.flatten) :
    (chunks.map id).flatten = (chunks'.map id).flatten := by simpa using h

/-- regenerated (`Gen.TableWrites`): every assignment to these tables anywhere in the teamserver is an append at the end,
    a delete of one index, the hand-out split, `nil` / an empty literal, or a slice built up freshly in a local - never a
    re-slice to length 0 or a filter in place, whose later appends would overwrite what an earlier reader still holds.
    The models' immutable lists are faithful to the Go slices only under this fact. -/
theorem relay_table_writes_value_like :
    aliasingWrites ["SocksCli", "SocksSvr", "PortFwds"] = [] ∧ writtenTables ["SocksCli", "SocksSvr", "PortFwds"] = ["SocksCli", "SocksSvr", "PortFwds"] ∧ Gen.TableWrites.reslicesToZero = [] :=
  ⟨aliasingWrites_eq_nil _, by decide, rfl⟩

/-- the same on every control-flow path separately (regenerated `Gen.LockPaths`): no early return, branch or case of
    any of these functions leaves a mutex held that a `defer` does not release -/
theorem table_locks_balanced_every_path : pathsUnbalancedIn ["agent", "socks"] = [] :=
  pathsUnbalancedIn_eq_nil _

/-- regenerated: every function of pkg/agent and pkg/socks that takes a table mutex releases it -/
theorem table_locks_balanced : unbalancedIn ["agent", "socks"] = [] := unbalancedIn_eq_nil _

/-- regenerated: every access to the socket / proxy / forward tables happens with the
    table's own mutex held (source order scan of every function that touches them) -/
theorem table_accesses_guarded :
    unguardedIn ["agent", "socks", "handlers", "server", "service"] ["SocksCli", "SocksSvr", "PortFwds"] = [] := by
  rw [unguardedIn_eq, unguardedAll_eq]
  decide

/-! non-vacuity -/
example : unguarded ["SocksCli"] [.lock "a.SocksCliMtx", .access "a.SocksCli", .unlock "a.SocksCliMtx", .access "a.SocksCli"]
    = ["SocksCli"] := by decide +kernel
/-- another object's mutex does not count -/
example : unguarded ["SocksCli"] [.lock "a.SocksCliMtx", .access "b.SocksCli", .unlock "a.SocksCliMtx"] = ["SocksCli"] := by decide +kernel
example : validAddr 3 [] ∧ validAddr 1 [127, 0, 0, 1] := by
  constructor
  · right; right; exact ⟨rfl, by decide⟩
  · left; exact ⟨rfl, rfl⟩
example : socksFrontEnd [5, 2, 2, 0, 5, 1, 0, 3, 2, 104, 105, 0, 80, 9] = .connect [5, 0] ⟨1, 3, [104, 105], 80⟩ [9] := by
  decide

section PortForward
open Havoc.PortFwd

/-- data for a forward that is not in the table is written nowhere: the state does not change -/
theorem pf_unknown_inert (s : St) (sid : Nat) (data : Bytes) (h : s.find sid = none) :
    step s (.read sid data) = (s, .refused) := by
  simp [step, h]

/-- data for a connected forward reaches its target appended to what it has already received:
    unmodified and in order, whatever the chunking -/
theorem pf_write_appends (s : St) (f : Fwd) (data : Bytes) (h : s.find f.sid = some f) (hc : f.conn = true) :
    step s (.read f.sid data) = (s.set { f with got := f.got ++ data }, .written) := by
  simp [step, h, hc]

/-- a refused dial leaves the entry as it was (still closed), so the next data dials again -/
theorem pf_refused_dial_keeps_closed (s : St) (f : Fwd) (data : Bytes) (h : s.find f.sid = some f)
    (hc : f.conn = false) (hu : f.up = false) :
    step s (.read f.sid data) = (s, .refused) := by
  simp [step, h, hc, hu]

/-- … and once the target listens the same data is delivered on a fresh connection -/
theorem pf_dial_when_up (s : St) (f : Fwd) (data : Bytes) (h : s.find f.sid = some f)
    (hc : f.conn = false) (hu : f.up = true) :
    step s (.read f.sid data) = (s.set { f with conn := true, got := f.got ++ data, live := f.live + 1 }, .written) := by
  simp [step, h, hc, hu]

/-- after the agent has reported the removal the forward is gone from the table -/
theorem pf_removed_gone (s : St) (sid : Nat) : ((step s (.remove sid)).1).find sid = none ∨ s.find sid = none := by
  cases h : s.find sid with
  | none => right; rfl
  | some f =>
    have : (step s (.remove sid)).1.fwds = s.fwds.filter (·.sid != sid) := by simp [step, h]
    left
    simp [St.find, this, List.find?_eq_none]

/- a target that is down at first, comes up, gets both chunks of the second attempt in order; removal closes -/
example : (run [.open_ 7 false, .read 7 [1, 2], .up 7, .read 7 [3], .read 7 [4, 5], .remove 7]).targets.map (fun f => (f.got, f.live)) = [([3, 4, 5], 0)] := by
  decide

end PortForward

end Havoc.C15
