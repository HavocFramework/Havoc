import HavocVerif.Lemmas.Pivot
import HavocVerif.Model.Tasks
/-
  C08 — Tasks and callbacks for pivot agents are routed to the right session.
-/
namespace Havoc.C08
open Havoc

/-- what one layer needs to be encodable: 32-bit id, frame sizes below 2^32 -/
def layerWf (h : Hop) (j : Job) : Prop :=
  h.id < 4294967296 ∧ j.wf ∧ (packerFrame h.id (buildPayload h.ks [j])).length < 4294967296

def chainWf : List Hop → Job → Prop
  | [], _ => True
  | h :: hs, j => layerWf h j ∧ chainWf hs (pivotJob h.id (buildPayload h.ks [j]))

theorem pivotJob_wf (id : Nat) (payload : Bytes) (hid : id < 4294967296)
    (hp : (packerFrame id payload).length + 12 < 4294967296) : (pivotJob id payload).wf := by
  refine ⟨by simp [pivotJob]; decide, by simp [pivotJob], ?_, by simp [pivotJob]; decide⟩
  simp [pivotJob, Job.body, Arg.encode, packerFrame] at hp ⊢
  omega

/-- one hop: the layer names this hop, the hop's own key opens it, and inside is exactly the
    next frame -/
theorem one_hop (h : Hop) (j : Job) (hw : layerWf h j) :
    deliverDown [h] (pivotJob h.id (buildPayload h.ks [j])).view = some j.view := by
  obtain ⟨hid, hj, hp⟩ := hw
  have hne : (buildPayload h.ks [j]).length > 0 := by
    have := buildPayload_length h.ks [j]; simp at this; omega
  have hpl : (buildPayload h.ks [j]).length < 4294967296 := by
    simp [packerFrame] at hp; omega
  simp only [deliverDown, relayOf_pivotJob h.id _ hid hp, ne_eq, not_true_eq_false, if_false,
    hopRecv, smbRecv_frame h.id _ hid hpl hne,
    dispatch_roundtrip h.ks j [] (by intro x hx; simp at hx; subst hx; exact hj)]
  rfl

/-- A task for an agent behind any chain of SMB pivots is wrapped once per hop such that
    each hop, decrypting its layer with its own key, finds the next hop's id and an opaque
    frame, and the last frame is the original task under the target's key — for every
    chain depth, every key assignment and every 32-bit id. -/
theorem wrap_unwrap (hops : List Hop) (j : Job) (h : chainWf hops j) :
    deliverDown hops.reverse (wrapHops hops j).view = some j.view := by
  induction hops generalizing j with
  | nil => rfl
  | cons hd tl ih =>
    rw [wrapHops, List.reverse_cons, deliverDown_append, ih _ h.2, Option.bind_some]
    exact one_hop hd j h.1

/-- a hop that is not the one named in the layer does not accept it -/
theorem wrong_hop_rejects (h : Hop) (id : Nat) (payload : Bytes) (hid : id < 4294967296)
    (hp : (packerFrame id payload).length < 4294967296) (hne : payload.length > 0)
    (hneq : id ≠ h.id) : deliverDown [h] (pivotJob id payload).view = none := by
  simp [deliverDown, relayOf_pivotJob id payload hid hp, hneq]

/-- upward: a relayed callback is gated by, and its effects attributed to, the agent named
    in the inner header — the relaying parent's outstanding ids play no role and are untouched -/
theorem relay_attribution (sendLogs : Bool) (s : TState) (parent child req cmd : Nat) (final : Bool)
    (hpc : parent ≠ child) :
    let s' := tstep sendLogs s (.callback child req cmd final)
    s'.tasks parent = s.tasks parent ∧
      (∀ e ∈ s'.effects, e ∈ s.effects ∨ (e.agent = child ∧ isKnown sendLogs (s.tasks child) req cmd = true)) := by
  simp only [tstep]
  split
  · rename_i hk
    refine ⟨by simp [hpc], ?_⟩
    intro e he
    simp only [List.mem_append, List.mem_singleton] at he
    rcases he with he | he
    · left; exact he
    · right; subst he; exact ⟨rfl, hk⟩
  · exact ⟨rfl, fun e he => Or.inl he⟩

/-! non-vacuity: a depth-3 chain with distinct keystreams and an id above 2^31 -/
example : chainWf [⟨0xFFFFFFFF, fun i => UInt8.ofNat (i + 1)⟩, ⟨0x80000000, fun i => UInt8.ofNat (3 * i)⟩,
    ⟨7, fun _ => 0x5a⟩] ⟨11, 99, [.int 5, .str [104, 105]]⟩ := by
  refine ⟨⟨by decide, ⟨by decide, by decide, by decide, by decide⟩, by decide⟩,
    ⟨by decide, ⟨by decide, by decide, by decide, by decide⟩, by decide⟩,
    ⟨by decide, ⟨by decide, by decide, by decide, by decide⟩, by decide⟩, trivial⟩

end Havoc.C08
