import HavocVerif.Model.Auth
import HavocVerif.Model.Service
import HavocVerif.Lemmas.ListFacts
/-
  C06 — Nothing is given to, or accepted from, an unauthenticated connection.
-/
namespace Havoc.C06
open Havoc

/-- a first message authenticates exactly when it names an operator of the profile, is an
    Init/OAuth request, and carries (as a string) the hex digest stored for that operator -/
theorem auth_iff (cfg : AuthCfg) (m : LoginMsg) :
    authOk cfg m = true ↔
      m.event = cfg.initEvent ∧ m.sub = cfg.oauthSub ∧ ∃ h, cfg.users.lookup m.user = some h ∧ m.password = some h := by
  unfold authOk
  cases cfg.users.lookup m.user <;> simp [and_assoc]

theorem login_success_iff (cfg : AuthCfg) (m : LoginMsg) :
    loginAnswer cfg m = Frame.authSuccess ↔ authOk cfg m = true := by
  unfold loginAnswer authOk
  cases cfg.users.lookup m.user <;> simp [and_assoc]

theorem loginAnswer_isError (cfg : AuthCfg) (m : LoginMsg) (h : authOk cfg m = false) :
    (loginAnswer cfg m).isError = true := by
  unfold loginAnswer
  split
  · rfl
  · simp [h, Frame.isError]

/-- whoever a broadcast reaches is authenticated at that moment -/
theorem broadcast_only_authed (s : OpSrv) (f : Frame) (ex : Option Nat) (c : Nat) (g : Frame)
    (h : (c, g) ∈ (s.broadcast f ex).delivered) :
    (c, g) ∈ s.delivered ∨ ∃ u, (c, CState.authed u) ∈ s.conns := by
  simp only [OpSrv.broadcast, List.mem_append, List.mem_map, List.mem_reverse, List.mem_filter] at h
  rcases h with h | ⟨⟨c', st⟩, ⟨hm, hf⟩, he⟩
  · exact .inl h
  · obtain ⟨rfl, rfl⟩ := Prod.mk.inj he
    cases st with
    | authed u => exact .inr ⟨u, hm⟩
    | _ => simp [isAuthed] at hf

/-- a message from a connection that is not in its fresh state changes nothing at all: no
    replay, no action, nothing recorded (so nothing can be triggered before authentication
    by anything but the one login message) -/
theorem nonfresh_message_inert (cfg : AuthCfg) (s : OpSrv) (c : Nat) (m : LoginMsg)
    (h : s.stateOf c ≠ some .fresh) : srvStep cfg s (.message c m) = s := by
  simp [srvStep, h]

/-- a failed first message is answered with exactly one error frame; nothing is recorded and
    the connection never becomes authenticated by it -/
theorem failed_login_one_error (cfg : AuthCfg) (s : OpSrv) (c : Nat) (m : LoginMsg)
    (hf : s.stateOf c = some .fresh) (hbad : authOk cfg m = false) :
    ∃ e, e.isError = true ∧ (srvStep cfg s (.message c m)).delivered = s.delivered ++ [(c, e)] ∧
      (srvStep cfg s (.message c m)).retained = s.retained ∧
      (srvStep cfg s (.message c m)).sessions = s.sessions := by
  refine ⟨loginAnswer cfg m, loginAnswer_isError cfg m hbad, ?_, ?_, ?_⟩ <;>
    simp [srvStep, hf, login_success_iff, hbad, OpSrv.deliver, OpSrv.setState]

/-- a successful login receives the success frame, then every retained event in recording
    order, then every live session (C11's replay clause, same step function) -/
theorem login_replay (cfg : AuthCfg) (s : OpSrv) (c : Nat) (m : LoginMsg)
    (hf : s.stateOf c = some .fresh) (hok : authOk cfg m = true) :
    (srvStep cfg s (.message c m)).delivered = s.delivered ++
      ([(c, Frame.authSuccess)] ++ s.retained.map (fun e => (c, Frame.event e)) ++
        s.sessions.map (fun a => (c, Frame.session a))) := by
  simp [srvStep, hf, login_success_iff, hok, OpSrv.deliver, OpSrv.setState]

/-- … and what it does to the connection table -/
theorem srvStep_message_conns (cfg : AuthCfg) (s : OpSrv) (c : Nat) (m : LoginMsg) :
    (srvStep cfg s (.message c m)).conns =
      if s.stateOf c = some .fresh then (s.setState c (if authOk cfg m then .authed m.user else .dead)).conns else s.conns := by
  simp only [srvStep, login_success_iff]
  split
  · split <;> rfl
  · rfl

/-- Pre-authentication silence: whatever a step newly delivers to a connection is an error
    answer to that connection's own first message, or the connection is authenticated (in the
    state the frame was sent from / the state after a successful login). -/
theorem step_silence (cfg : AuthCfg) (s : OpSrv) (op : SrvOp) (c : Nat) (f : Frame)
    (hnew : (c, f) ∈ (srvStep cfg s op).delivered) (hold : (c, f) ∉ s.delivered) :
    f.isError = true ∨ (∃ u, (c, CState.authed u) ∈ s.conns) ∨
      (∃ u, (c, CState.authed u) ∈ (srvStep cfg s op).conns) := by
  cases op with
  | connect c' => simp only [srvStep] at hnew; split at hnew <;> exact absurd hnew hold
  | close c' => simp only [srvStep] at hnew; split at hnew <;> exact absurd hnew hold
  | record e one ex => cases one <;> exact (broadcast_only_authed _ _ _ _ _ hnew).elim (absurd · hold) (.inr ∘ .inl)
  | newSession a => exact (broadcast_only_authed _ _ _ _ _ hnew).elim (absurd · hold) (.inr ∘ .inl)
  | message c' m =>
    by_cases hf : s.stateOf c' = some .fresh
    · cases hok : authOk cfg m
      · obtain ⟨e, he, hd, -, -⟩ := failed_login_one_error cfg s c' m hf hok
        rw [hd] at hnew
        rcases List.mem_append.mp hnew with h | h
        · exact absurd h hold
        · exact .inl ((Prod.mk.inj (List.mem_singleton.mp h)).2 ▸ he)
      · -- the success frame and the replay all go to `c'`, which is authenticated afterwards
        rw [login_replay cfg s c' m hf hok] at hnew
        rw [srvStep_message_conns, if_pos hf, hok]
        rcases List.mem_append.mp hnew with h | h
        · exact absurd h hold
        · simp only [List.mem_append, List.mem_singleton, List.mem_map, Prod.mk.injEq] at h
          rcases h with (⟨rfl, -⟩ | ⟨_, _, rfl, -⟩) | ⟨_, _, rfl, -⟩ <;> exact .inr (.inr ⟨m.user, List.mem_cons_self⟩)
    · rw [nonfresh_message_inert cfg s c' m hf] at hnew
      exact absurd hnew hold


/-! ### histories of the operator endpoint -/

def srvRun (cfg : AuthCfg) (s : OpSrv) (ops : List SrvOp) : OpSrv := ops.foldl (srvStep cfg) s

/-- For every history: every frame a connection ever received is an error answer, or the
    connection was authenticated at some point of the history (the frame is then the success
    answer, its replay, or a later broadcast). -/
theorem run_silence_from (cfg : AuthCfg) (ops : List SrvOp) : ∀ (s : OpSrv) (c : Nat) (f : Frame),
    (c, f) ∈ (srvRun cfg s ops).delivered →
    (c, f) ∈ s.delivered ∨ f.isError = true ∨
      ∃ n u, (c, CState.authed u) ∈ (srvRun cfg s (ops.take n)).conns := by
  induction ops with
  | nil => intro s c f h; exact .inl h
  | cons op ops ih =>
    intro s c f h
    rcases ih (srvStep cfg s op) c f h with h1 | h1 | ⟨n, u, h1⟩
    · by_cases hold : (c, f) ∈ s.delivered
      · exact .inl hold
      · rcases step_silence cfg s op c f h1 hold with e | ⟨u, hu⟩ | ⟨u, hu⟩
        · exact .inr (.inl e)
        · exact .inr (.inr ⟨0, u, hu⟩)
        · exact .inr (.inr ⟨1, u, hu⟩)
    · exact .inr (.inl h1)
    · exact .inr (.inr ⟨n + 1, u, h1⟩)

theorem run_silence (cfg : AuthCfg) (ops : List SrvOp) (c : Nat) (f : Frame)
    (h : (c, f) ∈ (srvRun cfg {} ops).delivered) :
    f.isError = true ∨ ∃ n u, (c, CState.authed u) ∈ (srvRun cfg {} (ops.take n)).conns :=
  (run_silence_from cfg ops {} c f h).resolve_left (by simp)

/-- a connection becomes authenticated only by a first message that passes `authOk` -/
theorem authed_only_by_login (cfg : AuthCfg) (s : OpSrv) (op : SrvOp) (c : Nat) (u : Str)
    (h : (c, CState.authed u) ∈ (srvStep cfg s op).conns) (hold : (c, CState.authed u) ∉ s.conns) :
    ∃ m, op = .message c m ∧ authOk cfg m = true ∧ m.user = u ∧ s.stateOf c = some .fresh := by
  -- a new entry is the one that `setState` has written
  have new : ∀ c' st, (c, CState.authed u) ∈ (s.setState c' st).conns → c = c' ∧ CState.authed u = st := fun c' st hm => by
    simp only [OpSrv.setState, List.mem_cons, List.mem_filter] at hm
    exact hm.elim Prod.mk.inj (absurd ·.1 hold)
  cases op with
  | connect c' =>
    simp only [srvStep] at h
    split at h
    · exact absurd h hold
    · cases (new _ _ h).2
  | close c' =>
    simp only [srvStep] at h
    split at h
    · cases (new _ _ h).2
    · exact absurd h hold
  | record e one ex => cases one <;> exact absurd h hold
  | newSession a => exact absurd h hold
  | message c' m =>
    rw [srvStep_message_conns] at h
    split at h
    · rename_i hf
      obtain ⟨rfl, hu⟩ := new _ _ h
      cases hok : authOk cfg m
      · simp [hok] at hu
      · exact ⟨m, rfl, hok, by simpa [hok] using hu.symm, hf⟩
    · exact absurd h hold

/-! ### the service endpoint -/

theorem svc_auth_iff (H : Str → Str) (pw : Str) (hs : Option SvcHello) :
    svcAuth H pw hs = some true ↔ ∃ m, hs = some m ∧ m.type = headRegister ∧ H m.pass = H pw := by
  cases hs with
  | none => simp [svcAuth]
  | some m => by_cases ht : m.type = headRegister <;> simp [svcAuth, ht]

/-- everything in the service registries belongs to a connection that is authenticated now -/
def SvcInv (s : Svc) : Prop :=
  (∀ x ∈ s.agents, s.stateOf x.2 = some .authed) ∧ (∀ x ∈ s.listeners, s.stateOf x.2 = some .authed) ∧
  (∀ x ∈ s.endpoints, s.stateOf x.2.2 = some .authed)

theorem stateOf_setState (s : Svc) (c d : Nat) (st : SvcConn) :
    (s.setState c st).stateOf d = if d = c then some st else s.stateOf d :=
  lookup_replace s.conns c d st

/-- every entry of a registry (`owner` names the owning connection) belongs to an authenticated connection -/
def Owned {β : Type} (conns : List (Nat × SvcConn)) (owner : β → Nat) (reg : List β) : Prop :=
  ∀ x ∈ reg, conns.lookup (owner x) = some .authed

/-- a connection that owns nothing may change its state at will, and any connection may become authenticated -/
theorem Owned.replace {β : Type} {conns : List (Nat × SvcConn)} {owner : β → Nat} {reg : List β} (h : Owned conns owner reg)
    (c : Nat) (st : SvcConn) (hc : conns.lookup c = some .authed → st = .authed) :
    Owned ((c, st) :: conns.filter (·.1 ≠ c)) owner reg := fun x hx => by
  rw [lookup_replace]; split
  · rename_i e; rw [hc (e ▸ h x hx)]
  · exact h x hx

/-- a connection whose entries are dropped may change its state at will -/
theorem Owned.drop {β : Type} {conns : List (Nat × SvcConn)} {owner : β → Nat} {reg : List β} (h : Owned conns owner reg)
    (c : Nat) (st : SvcConn) : Owned ((c, st) :: conns.filter (·.1 ≠ c)) owner (reg.filter (owner · ≠ c)) := fun x hx => by
  have ⟨hm, hne⟩ := List.mem_filter.mp hx
  rw [lookup_replace, if_neg (by simpa using hne)]; exact h x hm

theorem Owned.concat {β : Type} {conns : List (Nat × SvcConn)} {owner : β → Nat} {reg : List β} (h : Owned conns owner reg)
    (x : β) (hx : conns.lookup (owner x) = some .authed) : Owned conns owner (reg ++ [x]) := fun y hy => by
  rcases List.mem_append.mp hy with hy | hy
  · exact h y hy
  · rw [List.mem_singleton.mp hy]; exact hx

theorem dispatch_conns (s : Svc) (c : Nat) (req : SvcReq) : (s.dispatch c req).conns = s.conns := by
  cases req <;> simp only [Svc.dispatch] <;> (try split) <;> rfl

theorem svc_step_inv (H : Str → Str) (pw : Str) (s : Svc) (op : SvcOp) (h : SvcInv s) : SvcInv (svcStep H pw s op) := by
  obtain ⟨ha, hl, he⟩ := h
  have set : ∀ (c : Nat) (st : SvcConn), (s.stateOf c = some .authed → st = .authed) → SvcInv (s.setState c st) :=
    fun c st hc => ⟨Owned.replace ha c st hc, Owned.replace hl c st hc, Owned.replace he c st hc⟩
  cases op with
  | connect c =>
    simp only [svcStep]; split
    · exact ⟨ha, hl, he⟩
    · rename_i hn; exact set c .fresh fun e => by simp [e] at hn
  | close c =>
    simp only [svcStep]; split
    · exact ⟨Owned.drop ha c .closed, Owned.drop hl c .closed, Owned.drop he c .closed⟩
    · rename_i hf; exact set c .closed fun e => by simp [hf] at e
    · exact ⟨ha, hl, he⟩
  | message c hs req =>
    simp only [svcStep]; split
    · rename_i hf
      have hne : s.stateOf c = some .authed → SvcConn.closed = .authed := fun e => by simp [hf] at e
      split
      · exact set c .authed fun _ => rfl
      · exact set c .closed hne
      · exact set c .closed hne
    · rename_i hauth
      cases req with
      | registerAgent n =>
        simp only [Svc.dispatch]; split
        · exact ⟨ha, hl, he⟩
        · exact ⟨Owned.concat ha _ hauth, hl, he⟩
      | listenerAdd n =>
        simp only [Svc.dispatch]; split
        · exact ⟨ha, hl, he⟩
        · exact ⟨ha, Owned.concat hl _ hauth, he⟩
      | exc2 n e =>
        simp only [Svc.dispatch]; split
        · exact ⟨ha, hl, he⟩
        · exact ⟨ha, hl, Owned.concat he _ hauth⟩
      | other => exact ⟨ha, hl, he⟩
    · exact ⟨ha, hl, he⟩

/-- For every history of the service endpoint: whatever is registered is owned by a
    connection that is authenticated — nothing is dispatched for anybody else. -/
theorem svc_nothing_before_password (H : Str → Str) (pw : Str) (ops : List SvcOp) : SvcInv (svcRun H pw ops) :=
  List.foldlRecOn ops (svcStep H pw) ⟨by simp, by simp, by simp⟩ fun s h op _ => svc_step_inv H pw s op h

/-- … and a service connection becomes authenticated only by presenting the password -/
theorem svc_authed_only_by_password (H : Str → Str) (pw : Str) (s : Svc) (op : SvcOp) (c : Nat)
    (h : (svcStep H pw s op).stateOf c = some .authed) (hold : s.stateOf c ≠ some .authed) :
    ∃ m req, op = .message c (some m) req ∧ m.type = headRegister ∧ H m.pass = H pw := by
  -- `c` is the connection whose state has been set, to `authed`
  have new : ∀ c' st, (s.setState c' st).stateOf c = some .authed → c = c' ∧ st = .authed := fun c' st hs => by
    rw [stateOf_setState] at hs; split at hs
    · exact ⟨‹_›, Option.some.inj hs⟩
    · exact absurd hs hold
  cases op with
  | connect c' =>
    simp only [svcStep] at h
    split at h
    · exact absurd h hold
    · cases (new _ _ h).2
  | close c' =>
    simp only [svcStep] at h; split at h
    · cases (new _ _ h).2
    · cases (new _ _ h).2
    · exact absurd h hold
  | message c' hs req =>
    simp only [svcStep] at h; split at h
    · split at h
      · rename_i hauth
        obtain ⟨rfl, -⟩ := new _ _ h
        obtain ⟨m, rfl, ht, hp⟩ := (svc_auth_iff H pw hs).mp hauth
        exact ⟨m, req, rfl, ht, hp⟩
      · cases (new _ _ h).2
      · cases (new _ _ h).2
    · rw [Svc.stateOf, dispatch_conns] at h
      exact absurd h hold
    · exact absurd h hold

example : svcAuth id "pw".toList (some ⟨"Register".toList, "pw".toList⟩) = some true := by decide
example : svcAuth id "pw".toList (some ⟨"Register".toList, "no".toList⟩) = some false := by decide
example : svcAuth id "pw".toList (some ⟨"RegisterAgent".toList, "pw".toList⟩) = none := by decide +kernel

/-! non-vacuity -/
example : authOk ⟨[("alice".toList, "ab12".toList)], 1, 3⟩ ⟨1, 3, "alice".toList, some "ab12".toList⟩ = true := by decide
example : authOk ⟨[("alice".toList, "ab12".toList)], 1, 3⟩ ⟨1, 3, "alice".toList, none⟩ = false := by decide

end Havoc.C06
