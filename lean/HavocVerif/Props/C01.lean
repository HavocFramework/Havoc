import HavocVerif.Lemmas.ParserGo
import HavocVerif.Lemmas.Register
import HavocVerif.Lemmas.Locks
import HavocVerif.Model.Ingress
/-
  C01 — Untrusted listener traffic can never crash or wedge the teamserver.
  What is proved here: the parser primitives never fault on any buffer (every Go slice
  expression in parser.go is in bounds), the header / registration path rejects without
  touching the session table, the package loop terminates within the buffer length, and
  every mutex-using function on the agent-facing path is lock-balanced (regenerated).
  TaskDispatch's per-command bodies are covered by correspondence, not by proof
  (DESIGN.md §5 C01, limits).
-/
namespace Havoc.C01
open Havoc

/-- no reader of parser.go panics, on any buffer, in either byte order -/
theorem parser_total (p : Parser) (n : Nat) (ts : List ReadType) :
    (∃ v, ParserGo.parseInt32 p = .ok v) ∧ (∃ v, ParserGo.parseInt64 p = .ok v) ∧
    (∃ v, ParserGo.parseBytes p = .ok v) ∧ (∃ v, ParserGo.parseAtLeastBytes p n = .ok v) ∧
    (∃ v, ParserGo.canIReadFrom p ts 0 = .ok v) :=
  ⟨⟨_, parseInt32_refines p⟩, ⟨_, parseInt64_refines p⟩, ⟨_, parseBytes_refines p⟩,
   ⟨_, parseAtLeastBytes_refines p n⟩, ⟨_, canIReadFrom_refines p ts 0⟩⟩

theorem parseInt32_shrinks (p : Parser) : (Parser.parseInt32 p).2.length ≤ p.length := by
  unfold Parser.parseInt32
  split
  · simp [Parser.length]
  · exact Nat.le_refl _

theorem parseInt32_length (p : Parser) (h : p.length ≥ 4) : (Parser.parseInt32 p).2.length = p.length - 4 := by
  unfold Parser.parseInt32
  have h' : 4 ≤ p.buf.length := by simpa [Parser.length] using h
  simp [Parser.length, h']

theorem parseBytes_shrinks (p : Parser) : (Parser.parseBytes p).2.length ≤ p.length := by
  unfold Parser.parseBytes
  split
  · have := parseInt32_shrinks p
    generalize Parser.parseInt32 p = r at this
    obtain ⟨size, p1⟩ := r
    simp only at this ⊢
    split
    · simp [Parser.length]
    · simp [Parser.length] at this ⊢; omega
  · exact Nat.le_refl _

theorem parseHeader_length (body : Bytes) (h : Header) (he : parseHeader body = some h) :
    body.length = 12 + h.data.length ∧ h.data.length > 0 := by
  unfold parseHeader at he
  simp only at he
  split at he
  · rename_i h0
    have l1 := parseInt32_length ⟨body, true⟩ (by simp [Parser.length] at h0 ⊢; omega)
    split at he
    · rename_i h1
      have l2 := parseInt32_length (Parser.parseInt32 ⟨body, true⟩).2 (by omega)
      split at he
      · rename_i h2
        have l3 := parseInt32_length (Parser.parseInt32 (Parser.parseInt32 ⟨body, true⟩).2).2 (by omega)
        simp only [Option.some.injEq] at he
        rw [← he]
        simp only [Parser.length] at l1 l2 l3 h0 h1 h2 ⊢
        omega
      · simp at he
    · simp at he
  · simp at he

theorem unknownDemon_table (ksFor : Bytes → Bytes → KeyStream) (s : Sessions) (id : Nat) (data : Bytes) :
    (unknownDemon ksFor s id data).1 = s ∨
      ∃ sess r, unknownDemon ksFor s id data = (s ++ [sess], .reply r) ∧ sess.id = id := by
  unfold unknownDemon
  simp only
  split
  · rcases handleInit_table ksFor s id
      (Parser.parseInt32 (Parser.parseInt32 ⟨data, true⟩).2).2.buf with h | ⟨sess, r, h, hid, _⟩
    · left
      generalize handleInit ksFor s id _ = x at h
      obtain ⟨s', res⟩ := x
      cases res <;> exact h
    · exact .inr ⟨sess, r, by rw [h], hid⟩
  · exact .inl rfl

/-- a request changes the session table only by registering its sender, and then it is answered -/
theorem ingress_table (ksFor : Bytes → Bytes → KeyStream) (s : Sessions) (svc : Nat → Bool) (body : Bytes) :
    (ingress ksFor s svc body).1 = s ∨
      ∃ sess r, ingress ksFor s svc body = (s ++ [sess], .reply r) := by
  unfold ingress
  cases parseHeader body with
  | none => exact .inl rfl
  | some hd =>
    simp only
    by_cases h4 : hd.data.length < 4
    · rw [if_pos h4]
      exact .inl rfl
    rw [if_neg h4]
    by_cases hm : hd.magic = Gen.Consts.DEMON_MAGIC_VALUE
    · rw [if_pos hm]
      by_cases he : s.exist hd.agentId = true
      · rw [if_pos he]
        exact .inl rfl
      · rw [if_neg he]
        rcases unknownDemon_table ksFor s hd.agentId hd.data with h | ⟨sess, r, h, _⟩
        · exact .inl h
        · exact .inr ⟨sess, r, h⟩
    · rw [if_neg hm]
      split <;> exact .inl rfl

/-- a request that is rejected leaves the session table untouched -/
theorem reject_pure (ksFor : Bytes → Bytes → KeyStream) (s : Sessions) (svc : Nat → Bool) (body : Bytes)
    (h : (ingress ksFor s svc body).2 = .rejected) : (ingress ksFor s svc body).1 = s := by
  rcases ingress_table ksFor s svc body with h' | ⟨sess, r, h'⟩
  · exact h'
  · rw [h'] at h
    cases h

/-- short or foreign requests are rejected: fewer than 16 bytes never reach a handler -/
theorem short_rejected (ksFor : Bytes → Bytes → KeyStream) (s : Sessions) (svc : Nat → Bool) (body : Bytes)
    (h : body.length < 16) : ingress ksFor s svc body = (s, .rejected) := by
  unfold ingress
  split
  · rfl
  · rename_i hd heq
    have := parseHeader_length body hd heq
    have : hd.data.length < 4 := by omega
    simp [this]

/-- an unknown magic value with no matching service registered is rejected -/
theorem foreign_magic_rejected (ksFor : Bytes → Bytes → KeyStream) (s : Sessions) (body : Bytes) :
    (ingress ksFor s (fun _ => false) body).2 = .rejected ∨
      ∃ h, parseHeader body = some h ∧ h.magic = Gen.Consts.DEMON_MAGIC_VALUE := by
  unfold ingress
  split
  · left; rfl
  · rename_i h heq
    by_cases hm : h.magic = Gen.Consts.DEMON_MAGIC_VALUE
    · right; exact ⟨h, heq, hm⟩
    · left; simp only [hm, if_false]; split <;> simp

/-- the package loop of handleDemonAgent terminates: fuel = buffer length + 1 is never
    exhausted (each iteration consumes at least the 8 bytes of command and request id) -/
theorem package_loop_terminates (p : Parser) (n : Nat) :
    ∀ fuel, fuel > p.length → ∃ k, packageLoop fuel p n = some k := by
  intro fuel
  induction fuel generalizing p n with
  | zero => intro h; omega
  | succ fuel ih =>
    intro hf
    unfold packageLoop
    by_cases hc : p.canIRead [.int32, .int32] = true
    · simp only [hc, if_true]
      have h8 : 0 + 8 ≤ p.length := (canIReadFrom_fixed p _ (by decide) 0 (Nat.zero_le _)).mp hc
      have e1 := parseInt32_length p (by omega)
      have e2 := parseInt32_length (Parser.parseInt32 p).2 (by omega)
      split
      · exact ih _ _ (by omega)
      · have e3 := parseBytes_shrinks (Parser.parseInt32 (Parser.parseInt32 p).2).2
        exact ih _ _ (by omega)
    · simp only [hc]; exact ⟨n, rfl⟩

/-- the same on every control-flow path separately (regenerated `Gen.LockPaths`): no early return, branch or case of
    any of these functions leaves a mutex held that a `defer` does not release -/
theorem locks_balanced_every_path : pathsUnbalancedIn ["agent", "handlers", "socks"] = [] :=
  pathsUnbalancedIn_eq_nil _

/-- regenerated: every function of pkg/agent, pkg/handlers and pkg/socks that takes a mutex
    releases it on every return path (explicitly before, or by defer) -/
theorem locks_balanced : unbalancedIn ["agent", "handlers", "socks"] = [] := unbalancedIn_eq_nil _

/-- meaning of the check: a balanced event sequence leaves nothing held at its end -/
theorem balanced_sound (evs : List Gen.LockFacts.Ev) (h : balanced evs = true) : heldAtExit evs = [] := by
  unfold balanced at h
  unfold heldAtExit
  simp only [Bool.and_eq_true, List.all_eq_true] at h
  simp only [List.filter_eq_nil_iff]
  intro m hm
  have := h.2 m hm
  simpa using this

/-! non-vacuity -/
example : balanced [.lock "m", .ret, .unlock "m"] = false := by decide
example : balanced [.lock "m", .deferUnlock "m", .ret, .ret] = true := by decide
example : (ingress (fun _ _ _ => 0) [] (fun _ => false) [0, 0, 0, 20, 0xDE, 0xAD, 0xBE, 0xEF, 0, 0, 0, 1, 0, 0, 0, 5, 1, 2, 3, 4]).2
    = .rejected := by decide

end Havoc.C01
