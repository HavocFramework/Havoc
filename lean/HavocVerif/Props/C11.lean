import HavocVerif.Lemmas.Events
import HavocVerif.Gen.SrcLines
import HavocVerif.Lemmas.Locks
import HavocVerif.Gen.CallSeq
/-
  C11 — Operators get the full event stream in order; a dead one blocks nobody.
-/
namespace Havoc.C11
open Havoc

/-! ### well-formed client table -/

def KeysNodup (s : Hub) : Prop := (s.conns.map (·.1)).Nodup

theorem step_conns_keys (s : Hub) (op : HubOp) (h : KeysNodup s) : KeysNodup (hubStep s op) := by
  unfold KeysNodup at *
  cases op with
  | connect c =>
    simp only [hubStep]; split
    · exact h
    · rename_i hn
      rw [List.map_append, List.map_singleton, nodup_concat]
      exact ⟨h, fun hc => hn (by simpa [Hub.stateOf, List.lookup_isSome_iff] using hc)⟩
  | _ =>
    -- no other operation adds a connection or renames one
    simp only [hubStep]
    repeat' split
    all_goals simpa [setState_keys] using h

theorem run_keys (ops : List HubOp) : KeysNodup (hubRun ops) :=
  List.foldlRecOn ops hubStep (by simp [KeysNodup]) fun s h op _ => step_conns_keys s op h

theorem authedIds_nodup (s : Hub) (h : KeysNodup s) : s.authedIds.Nodup :=
  h.sublist (List.Sublist.map _ List.filter_sublist)

/-! ### broadcast: exactly one frame to every authenticated operator except the excluded one -/

/-- `c` is a target of a broadcast excluding `ex` -/
def IsTarget (s : Hub) (c : Nat) (ex : Option Nat) : Prop :=
  c ∈ s.authedIds ∧ some c ≠ ex ∧ s.failed.contains c = false

instance (s : Hub) (c : Nat) (ex : Option Nat) : Decidable (IsTarget s c ex) := by unfold IsTarget; exact inferInstance

theorem broadcast_exact (s : Hub) (h : KeysNodup s) (e : Ev) (ex : Option Nat) (c : Nat) :
    (s.broadcast e ex).received c = s.received c ++ (if IsTarget s c ex then [e] else []) := by
  have nd : ((s.authedIds.filter fun x => some x != ex).filter fun x => !s.failed.contains x).Nodup :=
    ((authedIds_nodup s h).sublist List.filter_sublist).sublist List.filter_sublist
  have key : c ∈ ((s.authedIds.filter fun x => some x != ex).filter fun x => !s.failed.contains x) ↔ IsTarget s c ex := by
    simp only [IsTarget, List.mem_filter, bne_iff_ne, ne_eq, Bool.not_eq_true', and_assoc]
  unfold Hub.broadcast
  rw [received_emit, nd.count]
  simp only [key]
  split <;> rfl

/-- a recorded event reaches every authenticated operator except the excluded one exactly once
    and nobody else; unless it is one-shot it is retained, at the end of the log -/
theorem record_exact (s : Hub) (h : KeysNodup s) (m : String) (one : Bool) (ex : Option Nat) (c : Nat) :
    (hubStep s (.record m one ex)).received c = s.received c ++ (if IsTarget s c ex then [Ev.chat m] else []) ∧
    (hubStep s (.record m one ex)).retained = (if one then s.retained else s.retained ++ [Ev.chat m]) := by
  -- retaining the event first changes neither the targets nor what anybody has received
  cases one
  · exact ⟨broadcast_exact (s.retain (.chat m)) h (.chat m) ex c, rfl⟩
  · exact ⟨broadcast_exact s h (.chat m) ex c, rfl⟩

/-- one-shot events are delivered but never replayed: they never enter the retained log -/
theorem oneshot_not_retained (s : Hub) (m : String) (ex : Option Nat) :
    (hubStep s (.record m true ex)).retained = s.retained := rfl

/-! ### replay to a newcomer -/

theorem login_replay (s : Hub) (c : Nat) (u : String) (hf : s.stateOf c = some .fresh)
    (hok : s.failed.contains c = false) :
    (hubStep s (.login c u)).received c =
      s.received c ++ [Ev.success] ++ (s.retained ++ [Ev.userOn u]) ++ s.activeSessions := by
  -- the broadcast of the newcomer's arrival skips the newcomer
  have skip : ∀ t : Hub, (t.broadcast (.userOn u) (some c)).received c = t.received c := fun t => by
    unfold Hub.broadcast
    rw [received_emit, List.count_eq_zero.mpr (by simp), List.replicate_zero, List.append_nil]
  have hok : c ∉ s.failed := by simpa using hok
  simp [hubStep, hf, received_emitMany, skip, hok, received_retain, received_setState, Hub.activeSessions]

/-! ### the retained log keeps its order -/

/-- the log is only ever appended to, except that the removal of an existing listener first prunes its add events -/
theorem retained_step (s : Hub) (op : HubOp) : s.retained <+: (hubStep s op).retained ∨
    ∃ n, (hubStep s op).retained = s.retained.filter (· ≠ .lAdd n) ++ [.lRemove n, .lRemove n] := by
  cases op with
  | lRemove c n =>
    simp only [hubStep]; split
    · split
      · exact .inr ⟨n, by simp [List.filter_append]⟩
      · exact .inl (by simp)
    · exact .inl (by simp)
  | _ =>
    -- the other operations only append
    refine .inl ?_
    simp only [hubStep]
    repeat' split
    all_goals simp

/-- every operation leaves the retained log in order: what was there stays in its order
    (minus the add events of a listener being removed) and new events go to the end -/
theorem retained_order (s : Hub) (op : HubOp) :
    ∃ (keep : Ev → Bool) (suffix : List Ev), (hubStep s op).retained = s.retained.filter keep ++ suffix :=
  (retained_step s op).elim
    (fun ⟨suffix, h⟩ => ⟨fun _ => true, suffix, by rw [← h, List.filter_eq_self.mpr fun _ _ => rfl]⟩)
    (fun ⟨_, h⟩ => ⟨_, _, h⟩)

/-! ### removed listeners are not announced to newcomers -/

/-- every retained add event names a listener that still exists -/
def ListenerInv (s : Hub) : Prop := ∀ n, Ev.lAdd n ∈ s.retained → n ∈ s.listeners

/-- a status report names a listener that exists at that moment -/
def notifyOk (s : Hub) : HubOp → Prop
  | .lNotify n => n ∈ s.listeners
  | _ => True

/-- histories in which every status report arrives while its listener exists -/
def WellNotified : Hub → List HubOp → Prop
  | _, [] => True
  | s, op :: ops => notifyOk s op ∧ WellNotified (hubStep s op) ops

theorem step_listenerInv (s : Hub) (op : HubOp) (h : ListenerInv s) (hn : notifyOk s op) : ListenerInv (hubStep s op) := by
  cases op with
  | lAdd c n =>
    simp only [hubStep]; split
    · split
      · exact h
      · intro k; simpa using Or.imp_left (h k)
    · exact h
  | lRemove c n =>
    simp only [hubStep]; split
    · split
      · intro k; simpa using fun hk hkn => ⟨h k hk, hkn⟩
      · intro k; simpa using h k
    · exact h
  | lNotify n => intro k; simpa [hubStep] using fun hk => hk.elim (h k) (· ▸ hn)
  | _ =>
    -- no add event is recorded and the registry stays as it is
    simp only [hubStep]
    repeat' split
    all_goals intro k; simpa using h k

theorem foldl_listenerInv : ∀ (ops : List HubOp) (s : Hub), ListenerInv s → WellNotified s ops → ListenerInv (ops.foldl hubStep s)
  | [], _, h, _ => h
  | op :: ops, s, h, hw => foldl_listenerInv ops _ (step_listenerInv s op h hw.1) hw.2

theorem run_listenerInv (ops : List HubOp) (hw : WellNotified {} ops) : ListenerInv (hubRun ops) :=
  foldl_listenerInv ops {} (by intro n hn; simp at hn) hw

/-- For every history: once an operator has removed a listener, no add event of it is in the
    replay list any more (so no newcomer is told about it), whatever was recorded before. -/
theorem removed_listener_not_replayed (ops : List HubOp) (hw : WellNotified {} ops) (c : Nat) (n : String) (u : String)
    (hc : (hubRun ops).stateOf c = some (.authed u)) :
    Ev.lAdd n ∉ (hubStep (hubRun ops) (.lRemove c n)).retained := by
  -- the invariant after the removal would put `n` among the listeners, where the removal has just not left it
  intro hmem
  have inv := step_listenerInv _ (.lRemove c n) (run_listenerInv ops hw) trivial n hmem
  simp only [hubStep, hc] at inv
  split at inv
  · simp at inv
  · rename_i hno
    simp only [broadcast_listeners, retain_listeners] at inv
    simp at hno
    exact hno inv

/- the hypothesis is met by a history with an add, two status reports and more (non-vacuity) … -/
example : WellNotified {} [.connect 0, .login 0 "a", .lAdd 0 "L", .lNotify "L", .lNotify "L", .record "m" false none] := by
  simp [WellNotified, notifyOk, hubStep, Hub.stateOf, Hub.setState, Hub.emitMany, Hub.retain, Hub.broadcast, Hub.emit,
    Hub.authedIds, Hub.activeSessions, HConn.isAuthed]
example : Ev.lAdd "L" ∉ (hubRun [.connect 0, .login 0 "a", .lAdd 0 "L", .lNotify "L", .lNotify "L", .lRemove 0 "L"]).retained := by
  decide

/- … and it is needed: a status report for a listener that does not exist (any more) is recorded like any
   other and nothing ever prunes it.  The implementation does the same (ListenerStartNotify records
   unconditionally, ListenerRemove finds no listener of that name); only a third-party service can cause it. -/
example : Ev.lAdd "L" ∈ (hubRun [.connect 0, .login 0 "a", .lNotify "L", .lRemove 0 "L"]).retained := by decide

/-! ### a dead operator changes nothing for the others -/

/-- the same operation applied to two states that differ only in d's transport: the guards read only
    fields on which the two agree, and every body is built from primitives that respect the relation -/
theorem step_sameBut {d : Nat} {s t : Hub} (h : SameBut d s t) (op : HubOp) : SameBut d (hubStep s op) (hubStep t op) := by
  cases op with
  | connect c => exact .ite (by rw [h.stateOf]) h (h.update (· ++ [(c, .fresh)]) id id id)
  | login c u =>
    refine .ite (by rw [h.stateOf]) ?_ h
    have h3 := (((h.setState c (.authed u)).emitMany c [.success]).retain (.userOn u)).broadcast (.userOn u) (some c)
    simp only [h3.retained, h3.activeSessions]
    exact h3.emitMany c _
  | record m one ex => exact (SameBut.ite Iff.rfl h (h.retain _)).broadcast _ _
  | chat c m =>
    simp only [hubStep, h.stateOf c]; split
    · exact (h.retain _).broadcast _ _
    · exact h
  | lAdd c n =>
    simp only [hubStep, h.stateOf c]; split
    · exact .ite (by rw [h.listeners]) h (((h.update id id id (· ++ [n])).retain _).broadcast _ _)
    · exact h
  | lRemove c n =>
    simp only [hubStep, h.stateOf c]; split
    · refine ((SameBut.ite (by simp only [retain_listeners, h.listeners]) ?_ (h.retain _)).retain _).broadcast _ _
      exact (h.retain (.lRemove n)).update id (·.filter (· ≠ .lAdd n)) id (·.filter (· ≠ n))
    · exact h
  | lNotify n => exact (h.retain _).broadcast _ _
  | register a => exact .ite (by rw [h.sessions]) h ((h.update id id (· ++ [(a, true)]) id).broadcast _ _)
  | dead c a =>
    simp only [hubStep, h.stateOf c]; split
    · refine .ite (by simp only [retain_sessions, h.sessions]) ?_ (h.retain _)
      exact (((h.retain (.mark a)).update id id (List.map _) id).retain _).broadcast _ _
    · exact h
  | fail c =>
    exact ⟨h.conns, h.retained, h.sessions, h.listeners,
      fun x hx => by simp only [hubStep, List.contains_cons, h.failed x hx], h.delivered⟩
  | leave c =>
    simp only [hubStep, h.stateOf c]; split
    · exact ((h.retain _).setState _ _).broadcast _ _
    · exact h.setState _ _
    · exact h

/-- cutting d's transport changes nothing but d's own future -/
theorem fail_sameBut (d : Nat) (s t : Hub) (h : SameBut d s t) : SameBut d s (hubStep t (.fail d)) :=
  ⟨h.conns, h.retained, h.sessions, h.listeners,
    fun x hx => by simp only [hubStep, List.contains_cons, beq_eq_false_iff_ne.mpr hx, Bool.false_or, h.failed x hx],
    h.delivered⟩

/-- a history with d's transport failures removed -/
def withoutFail (d : Nat) (ops : List HubOp) : List HubOp := ops.filter (· ≠ .fail d)

theorem run_sameBut (d : Nat) : ∀ (ops : List HubOp) (s t : Hub), SameBut d s t →
    SameBut d ((withoutFail d ops).foldl hubStep s) (ops.foldl hubStep t)
  | [], _, _, h => h
  | op :: ops, s, t, h => by
    by_cases hop : op = .fail d
    · subst hop
      simpa [withoutFail] using run_sameBut d ops s _ (fail_sameBut d s t h)
    · simpa [withoutFail, hop] using run_sameBut d ops _ _ (step_sameBut h op)

/-- For every history and every point at which operator d's transport is cut: every other
    connection receives exactly what it would have received had d stayed healthy, in the
    same order — event distribution to the others does not depend on d's failure. -/
theorem dead_operator_blocks_nobody (ops : List HubOp) (d c : Nat) (hcd : c ≠ d) :
    (hubRun ops).received c = (hubRun (withoutFail d ops)).received c :=
  (run_sameBut d ops {} {} (SameBut.refl d {})).received hcd

/-- … and the retained log, the sessions and the listeners do not depend on it either -/
theorem dead_operator_same_log (ops : List HubOp) (d : Nat) :
    (hubRun ops).retained = (hubRun (withoutFail d ops)).retained :=
  (run_sameBut d ops {} {} (SameBut.refl d {})).retained

/-! ### regenerated facts: the per-client lock and the write deadline -/

open Gen.LockFacts in
/-- regenerated from cmd/server/teamserver.go on every run: `EventAppend` records under the list's mutex everything
    whose one-shot flag is not exactly "true" (`record`), and `SendAllPackagesToNewClient` replays a COPY of the
    retained list taken under the mutex and sends after releasing it (`login_replay`: the newcomer's replay is the list
    as it was at that moment, whatever is recorded or pruned meanwhile; a stalled newcomer holds no lock) -/
theorem record_and_replay_transcribed :
    Gen.SrcLines.eventAppend =
      [
       "EventAppend(event packager.Package) []packager.Package",
       "t.EventsListMtx.Lock()",
       "defer t.EventsListMtx.Unlock()",
       "if event.Head.Event == 0 { return t.EventsList }",
       "if event.Head.OneTime != \"true\" { t.EventsList = append(t.EventsList, event) return append(t.EventsList, event) }",
       "return nil"] ∧
    Gen.SrcLines.sendAllPackagesToNewClient =
      [
       "SendAllPackagesToNewClient(ClientID string)",
       "t.EventsListMtx.Lock()",
       "Packages := append([]packager.Package(nil), t.EventsList...)",
       "t.EventsListMtx.Unlock()",
       "for _, Package := range Packages { err := t.SendEvent(ClientID, Package) if err != nil { logger.Error(\"error while sending info to client(\"+ClientID+\"): \", err) return } }",
       "for _, demon := range t.Agents.Agents { if demon.Active == false { continue } pk := t.EventNewDemon(demon) err := t.SendEvent(ClientID, pk) if err != nil { logger.Error(\"error while sending info to client(\"+ClientID+\"): \", err) return } }"] :=
  ⟨rfl, rfl⟩

/-- regenerated (`Gen.TableWrites`): an `append(T[:i], …)` moves elements inside T's backing array even when its result
    is not stored back into T.  The only such expression on a shared table is the return value of `EventRemove`
    (it would drop a second retained event and duplicate the last one), and `EventRemove` is called from nowhere:
    no reachable code damages the retained list that way. -/
theorem detached_appends_unreachable :
    (Gen.TableWrites.detachedAppends.all fun (f, _) => f == "server/Teamserver.EventRemove") = true ∧
    Gen.TableWrites.detachedCallers = [] := by decide

/-- regenerated (`Gen.TableWrites`): every assignment to these tables anywhere in the teamserver is an append at the end,
    a delete of one index, the hand-out split, `nil` / an empty literal, or a slice built up freshly in a local - never a
    re-slice to length 0 or a filter in place, whose later appends would overwrite what an earlier reader still holds.
    The models' immutable lists are faithful to the Go slices only under this fact. -/
theorem events_writes_value_like :
    aliasingWrites ["EventsList"] = [] ∧ writtenTables ["EventsList"] = ["EventsList"] ∧ Gen.TableWrites.reslicesToZero = [] :=
  ⟨aliasingWrites_eq_nil _, by decide, rfl⟩

/-- the same on every control-flow path separately (regenerated `Gen.LockPaths`): no early return, branch or case of
    any of these functions leaves a mutex held that a `defer` does not release -/
theorem server_locks_balanced_every_path : pathsUnbalancedIn ["server", "service"] = [] :=
  pathsUnbalancedIn_eq_nil _

/-- every function of cmd/server and pkg/service that takes a mutex releases it on every path
    (in particular SendEvent after a failed write) -/
theorem server_locks_balanced : unbalancedIn ["server", "service"] = [] := unbalancedIn_eq_nil _

/-- the retained log is only touched with its mutex held — events recorded concurrently are
    not lost.  (The one exception listed is the value returned by ListenerRemove's database-error
    exit, which no caller uses.) -/
theorem events_list_guarded :
    unguardedIn ["server"] ["EventsList"] = [("server/Teamserver.ListenerRemove", ["EventsList"])] := by
  rw [unguardedIn_eq, unguardedAll_eq]
  decide

open Gen.CallSeq in
/-- SendEvent sets a write deadline after taking the client's lock and before the write, and
    unlocks after the write -/
theorem sendEvent_deadline_before_write :
    (((Teamserver_SendEvent.dropWhile (· ≠ "Lock")).takeWhile (· ≠ "Unlock")).filter
      (fun c => c = "SetWriteDeadline" ∨ c = "WriteMessage")) = ["SetWriteDeadline", "WriteMessage"] := by decide +kernel

open Gen.CallSeq in
/-- the replay is: every retained package, then every live agent, each through SendEvent -/
theorem replay_shape : (Teamserver_SendAllPackagesToNewClient.filter (fun c => c = "SendEvent" ∨ c = "EventNewDemon"))
      = ["SendEvent", "EventNewDemon", "SendEvent"] := by decide

/-! non-vacuity -/
example : (hubRun [.connect 0, .login 0 "alice", .record "m" false none]).received 0 =
    [.success, .userOn "alice", .chat "m"] := by decide

end Havoc.C11
