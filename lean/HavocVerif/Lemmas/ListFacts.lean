/-
  Facts about lists and association lists that are not about any one model: what several of the state-machine
  proofs (C06, C09, C10, C11, C16) need of `Nodup`, `lookup`, `any` and `erase`.
-/
namespace Havoc

theorem nodup_concat {α : Type} {l : List α} {a : α} : (l ++ [a]).Nodup ↔ l.Nodup ∧ a ∉ l := by
  simp only [List.nodup_append, List.nodup_cons, List.not_mem_nil, not_false_eq_true, List.nodup_nil, and_self, true_and,
    List.mem_singleton, forall_eq]
  exact and_congr_right fun _ => ⟨fun h ha => h a ha rfl, fun h b hb e => h (e ▸ hb)⟩

theorem foldl_erase_self {α : Type} [BEq α] [LawfulBEq α] (l : List α) : l.foldl List.erase l = [] := by
  induction l with
  | nil => rfl
  | cons x xs ih => simp [List.foldl_cons, ih]

/-- the test in front of an insert-if-absent -/
theorem any_beq_iff_mem_map {α β : Type} [BEq β] [LawfulBEq β] (l : List α) (f : α → β) (b : β) :
    l.any (fun x => f x == b) = true ↔ b ∈ l.map f := by
  simp only [List.any_eq_true, List.mem_map, beq_iff_eq]

theorem lookup_filter_ne {β : Type} (l : List (Nat × β)) {c d : Nat} (h : d ≠ c) :
    (l.filter (·.1 ≠ c)).lookup d = l.lookup d := by
  induction l with
  | nil => rfl
  | cons x xs ih =>
    obtain ⟨k, v⟩ := x
    by_cases hk : k = c
    · rw [List.filter_cons_of_neg (by simpa using hk), ih, List.lookup_cons, beq_false_of_ne (hk ▸ h)]
    · rw [List.filter_cons_of_pos (by simpa using hk), List.lookup_cons, List.lookup_cons, ih]

/-- a table in which the entry of `c` has been replaced (`setState` of the two endpoints' connection tables) -/
theorem lookup_replace {β : Type} (l : List (Nat × β)) (c d : Nat) (v : β) :
    ((c, v) :: l.filter (·.1 ≠ c)).lookup d = if d = c then some v else l.lookup d := by
  by_cases h : d = c
  · simp [h]
  · rw [List.lookup_cons, beq_false_of_ne h, if_neg h, lookup_filter_ne l h]

end Havoc
