import HavocVerif.Model.Builder
import HavocVerif.Lemmas.Utf16
/-
  The Demon's readers undo the packer: each reader, applied to what the packer wrote followed by
  anything, returns the value and that rest.  The lemmas compose by rewriting; inside a `do`
  block they are used in the `_bind` form, which hands value and rest to the continuation.
-/
namespace Havoc

theorem getI32_le32 (v : Nat) (r : Bytes) (h : v < 4294967296) : getI32 (le32 v ++ r) = some (v, r) := by
  have ht : (le32 v ++ r).take 4 = le32 v := List.take_left' rfl
  have hd : (le32 v ++ r).drop 4 = r := List.drop_left' rfl
  simp [getI32, ht, hd, leNat_le32 v h]

theorem getI64_le64 (v : Nat) (r : Bytes) (h : v < 18446744073709551616) : getI64 (le64 v ++ r) = some (v, r) := by
  have ht : (le64 v ++ r).take 8 = le64 v := List.take_left' rfl
  have hd : (le64 v ++ r).drop 8 = r := List.drop_left' rfl
  simp [getI64, ht, hd, leNat_le64 v h]

theorem units16_length (us : List Nat) : (units16 us).length = 2 * us.length := by
  induction us with
  | nil => rfl
  | cons u us ih => simp [units16, List.flatMap_cons, le16] at *; omega

/-- wide strings: every unit fits 16 bits and the byte length fits the 32-bit prefix -/
def WfW (us : List Nat) : Prop := (∀ u ∈ us, u < 65536) ∧ 2 * us.length < 4294967296

theorem getW_packW (us : List Nat) (r : Bytes) (h : WfW us) : getW (packW us ++ r) = some (us, r) := by
  have ht : (units16 us ++ r).take (2 * us.length) = units16 us := List.take_left' (units16_length us)
  have hd : (units16 us ++ r).drop (2 * us.length) = r := List.drop_left' (units16_length us)
  simp [getW, packW, getI32_le32 _ _ h.2, units16_length, ht, hd]
  exact u16sOf_units us h.1

theorem getHosts_pack (hs : List (List Nat × Nat)) (r : Bytes)
    (h : ∀ x ∈ hs, WfW x.1 ∧ x.2 < 4294967296) : getHosts hs.length (packHosts hs ++ r) = some (hs, r) := by
  induction hs with
  | nil => rfl
  | cons x xs ih =>
    have hx := h x (by simp)
    simp [getHosts, packHosts, getW_packW _ _ hx.1, getI32_le32 _ _ hx.2, ih fun y hy => h y (by simp [hy])]

theorem getList_pack (ss : List (List Nat)) (r : Bytes) (h : ∀ x ∈ ss, WfW x) :
    getList ss.length (packList ss ++ r) = some (ss, r) := by
  induction ss with
  | nil => rfl
  | cons x xs ih =>
    simp [getList, packList, getW_packW _ _ (h x (by simp)), ih fun y hy => h y (by simp [hy])]

/-! ### inside a `do` block

  The `_bind` lemmas are given to `simp` with `↓`: it then rewrites the `bind` at the head of the block and
  applies its continuation before it visits the continuations of the reads still to come.  Without the
  arrow every step walks through all of them, and the cost is quadratic in the number of reads. -/

theorem bind_of_eq {α β : Type} {x : Option α} {a : α} (h : x = some a) (f : α → Option β) : x >>= f = f a := by
  rw [h]; rfl

theorem getI32_bind {β : Type} (v : Nat) (r : Bytes) (h : v < 4294967296) (f : Nat × Bytes → Option β) :
    getI32 (le32 v ++ r) >>= f = f (v, r) := bind_of_eq (getI32_le32 v r h) f

theorem getI64_bind {β : Type} (v : Nat) (r : Bytes) (h : v < 18446744073709551616) (f : Nat × Bytes → Option β) :
    getI64 (le64 v ++ r) >>= f = f (v, r) := bind_of_eq (getI64_le64 v r h) f

theorem getW_bind {β : Type} (us : List Nat) (r : Bytes) (h : WfW us) (f : List Nat × Bytes → Option β) :
    getW (packW us ++ r) >>= f = f (us, r) := bind_of_eq (getW_packW us r h) f

def WfT : Transport → Prop
  | .http kd wh m rot hosts sec ua hdrs uris proxy =>
    kd < 18446744073709551616 ∧ wh < 4294967296 ∧ WfW m ∧ rot < 4294967296 ∧ hosts.length < 4294967296 ∧
    (∀ x ∈ hosts, WfW x.1 ∧ x.2 < 4294967296) ∧ sec < 4294967296 ∧ WfW ua ∧
    hdrs.length < 4294967296 ∧ (∀ x ∈ hdrs, WfW x) ∧ uris.length < 4294967296 ∧ (∀ x ∈ uris, WfW x) ∧
    (match proxy with | some (a, b, c) => WfW a ∧ WfW b ∧ WfW c | none => True)
  | .smb pipe kd wh => WfW pipe ∧ kd < 18446744073709551616 ∧ wh < 4294967296

def Transport.isSmb : Transport → Bool
  | .smb _ _ _ => true
  | _ => false

theorem getTransport_pack (t : Transport) (r : Bytes) (h : WfT t) :
    (if t.isSmb then getSmb (packTransport t ++ r) else getHttp (packTransport t ++ r)) = some (t, r) := by
  cases t with
  | http kd wh m rot hosts sec ua hdrs uris proxy =>
    obtain ⟨h1, h2, h3, h4, h5, h6, h7, h8, h9, h10, h11, h12, h13⟩ := h
    have h0 : 0 < 4294967296 := by decide
    have h1' : 1 < 4294967296 := by decide
    simp only [Transport.isSmb, Bool.false_eq_true, if_false, packTransport, List.append_assoc]
    unfold getHttp
    cases proxy with
    | none =>
      simp only [↓getI64_bind, ↓getI32_bind, ↓getW_bind, ↓bind_of_eq (getHosts_pack _ _ h6),
        ↓bind_of_eq (getList_pack _ _ h10), ↓bind_of_eq (getList_pack _ _ h12), *, if_true, Option.pure_def]
    | some p =>
      obtain ⟨a, b, c⟩ := p
      obtain ⟨ha, hb, hc⟩ := h13
      simp only [↓getI64_bind, ↓getI32_bind, ↓getW_bind, ↓bind_of_eq (getHosts_pack _ _ h6),
        ↓bind_of_eq (getList_pack _ _ h10), ↓bind_of_eq (getList_pack _ _ h12), *, List.append_assoc,
        Nat.one_ne_zero, if_false, Option.pure_def]
  | smb pipe kd wh =>
    obtain ⟨h1, h2, h3⟩ := h
    simp only [Transport.isSmb, if_true, packTransport, List.append_assoc]
    unfold getSmb
    simp only [↓getI64_bind, ↓getI32_bind, ↓getW_bind, *, Option.pure_def]

structure WfCfg (c : DemonCfg) : Prop where
  sleep : c.sleep < 4294967296
  jitter : c.jitter < 4294967296
  alloc : c.alloc < 4294967296
  execute : c.execute < 4294967296
  s64 : WfW c.spawn64
  s32 : WfW c.spawn32
  technique : c.technique < 4294967296
  bypass : c.bypass < 4294967296
  stackSpoof : c.stackSpoof < 4294967296
  proxyLoading : c.proxyLoading < 4294967296
  sysIndirect : c.sysIndirect < 4294967296
  amsi : c.amsi < 4294967296
  transport : WfT c.transport

/-- the Demon reads back exactly what was packed, and consumes exactly the block -/
theorem readCfg_packCfg (c : DemonCfg) (r : Bytes) (h : WfCfg c) :
    readCfg c.transport.isSmb (packCfg c ++ r) = some (c, r) := by
  obtain ⟨h1, h2, h3, h4, h5, h6, h7, h8, h9, h10, h11, h12, ht⟩ := h
  simp only [packCfg, List.append_assoc]
  unfold readCfg
  simp only [↓getI32_bind, ↓getW_bind, ↓bind_of_eq (getTransport_pack _ _ ht), *, Option.pure_def]

/-! ### `specCfg` in two parts: the listener's and the options' -/

/-- the transport part of `specCfg` (Model/Builder.lean), word for word; `specCfg_eq` ties the two -/
def specTransport : ListenerL → Option Transport
  | .smb pipe kd hours =>
    (hoursWord hours).map fun w => Transport.smb (wide (asciiStr "\\\\.\\pipe\\" ++ pipe)) kd w
  | .http h =>
    match h.port, allSome (h.hosts.map parseHost) with
    | some port, some hosts =>
      if !(portOk port) || h.getMethod || hosts.any (fun x => match x.2 with | some p => !(portOk p) | none => false) then none
      else
        (hoursWord h.hours).map fun w =>
          let hdrs : List (List Nat) :=
            (if h.headers = [] then [asciiStr "Content-type: */*"] else h.headers) ++
            (if h.hostHeader = [] then [] else [asciiStr "Host: " ++ h.hostHeader])
          Transport.http h.killDate w (wide (asciiStr "POST")) (if h.rotation = "round-robin" then 0 else 1)
            (hosts.map fun (host, p) => (wide host, ((p.getD port).toNat)))
            (if h.secure then 1 else 0) (wide h.userAgent) (hdrs.map wide)
            ((if h.uris = [] then [asciiStr "/"] else h.uris).map wide)
            (h.proxy.map fun (ty, ho, po, u, p) => (wide (ty ++ asciiStr "://" ++ ho ++ asciiStr ":" ++ po), wide u, wide p))
    | _, _ => none

/-- the record `specCfg` builds from the options around a transport -/
def cfgOf (o : BuildOpts) (t : Transport) : DemonCfg :=
  { sleep := o.sleep.toNat, jitter := o.jitter.toNat, alloc := allocCode o.alloc, execute := allocCode o.execute,
    spawn64 := wide o.spawn64, spawn32 := wide o.spawn32,
    technique := techniqueCode o.technique, bypass := if techniqueCode o.technique = 0 then 0 else gadgetCode o.gadget,
    stackSpoof := if techniqueCode o.technique ≠ 0 && o.stackDup then 1 else 0,
    proxyLoading := proxyLoadingCode o.proxyLoading, sysIndirect := if o.indirectSyscall then 1 else 0,
    amsi := amsiCode o.amsi, transport := t }

theorem specCfg_eq (o : BuildOpts) (l : ListenerL) : specCfg o l =
    if !(inI32 o.sleep) || !(0 ≤ o.jitter && o.jitter ≤ 100) then none
    else if o.alloc = "" || o.execute = "" || o.spawn64 = [] || o.spawn32 = [] || o.technique = "" || o.gadget = "" ||
          o.proxyLoading = "" || o.amsi = "" then none
    else (specTransport l).map (cfgOf o) := by
  cases l <;> rfl

theorem specCfg_some {o : BuildOpts} {l : ListenerL} {c : DemonCfg} (h : specCfg o l = some c) :
    (inI32 o.sleep = true ∧ 0 ≤ o.jitter ∧ o.jitter ≤ 100) ∧ ∃ t, specTransport l = some t ∧ c = cfgOf o t := by
  rw [specCfg_eq] at h
  split at h
  · cases h
  · rename_i hg
    split at h
    · cases h
    · obtain ⟨t, ht, rfl⟩ := Option.map_eq_some_iff.mp h
      exact ⟨by simpa using hg, t, ht, rfl⟩

theorem patchConfig_none {o : BuildOpts} {l : ListenerL} (h : specTransport l = none) : patchConfig o l = none := by
  simp [patchConfig, specCfg_eq, h]

end Havoc
