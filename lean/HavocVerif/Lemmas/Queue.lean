import HavocVerif.Model.Queue
namespace Havoc

section
variable {α : Type} (size : α → Nat)

theorem countJobsBy_acc (maxLen : Nat) (q : List α) (sz num : Nat) :
    countJobsBy size maxLen q sz num = num + countJobsBy size maxLen q sz 0 := by
  induction q generalizing sz num with
  | nil => simp [countJobsBy]
  | cons j js ih =>
    simp only [countJobsBy]
    split
    · simp
    · rw [ih (sz + size j) (num + 1), ih (sz + size j) (0 + 1)]; omega

theorem countJobsBy_cons (maxLen : Nat) (j : α) (js : List α) (sz : Nat) :
    countJobsBy size maxLen (j :: js) sz 0 =
      if sz + size j ≥ maxLen then 0 else countJobsBy size maxLen js (sz + size j) 0 + 1 := by
  rw [countJobsBy, countJobsBy_acc, Nat.zero_add, Nat.add_comm 1]

theorem countJobsBy_le (maxLen : Nat) (q : List α) (sz : Nat) :
    countJobsBy size maxLen q sz 0 ≤ q.length := by
  induction q generalizing sz with
  | nil => simp [countJobsBy]
  | cons j js ih =>
    rw [countJobsBy_cons]
    split
    · simp
    · simpa using ih (sz + size j)

theorem countJobsBy_sum (maxLen : Nat) (q : List α) (sz : Nat) :
    countJobsBy size maxLen q sz 0 = 0 ∨
      sz + ((q.take (countJobsBy size maxLen q sz 0)).map size).sum < maxLen := by
  induction q generalizing sz with
  | nil => left; simp [countJobsBy]
  | cons j js ih =>
    rw [countJobsBy_cons]
    split
    · left; rfl
    · right
      rw [List.take_succ_cons, List.map_cons, List.sum_cons]
      rcases ih (sz + size j) with h0 | hlt
      · rw [h0]; simp; omega
      · omega

theorem countJobsBy_maximal (maxLen : Nat) (q : List α) (sz : Nat) :
    countJobsBy size maxLen q sz 0 = q.length ∨
      ∃ j, q[countJobsBy size maxLen q sz 0]? = some j ∧
        sz + ((q.take (countJobsBy size maxLen q sz 0)).map size).sum + size j ≥ maxLen := by
  induction q generalizing sz with
  | nil => left; simp [countJobsBy]
  | cons j js ih =>
    rw [countJobsBy_cons]
    split
    · rename_i h; right; exact ⟨j, by simp, by simpa using h⟩
    · rcases ih (sz + size j) with hall | ⟨k, hk, hs⟩
      · left; simp [hall]
      · right
        refine ⟨k, by simpa using hk, ?_⟩
        rw [List.take_succ_cons, List.map_cons, List.sum_cons]; omega

theorem getQueuedBy_partition (maxLen : Nat) (q : List α) :
    (getQueuedBy size maxLen q).1 ++ (getQueuedBy size maxLen q).2 = q := by
  simp [getQueuedBy]

theorem numJobsBy_pos (maxLen : Nat) (q : List α) (h : q ≠ []) : numJobsBy size maxLen q ≥ 1 := by
  unfold numJobsBy
  have : q.length > 0 := List.length_pos_iff.mpr h
  simp only
  split <;> omega

theorem numJobsBy_le (maxLen : Nat) (q : List α) : numJobsBy size maxLen q ≤ q.length := by
  unfold numJobsBy
  have := countJobsBy_le size maxLen q 0
  simp only
  split <;> omega

theorem getQueuedBy_nonempty (maxLen : Nat) (q : List α) (h : q ≠ []) :
    (getQueuedBy size maxLen q).1 ≠ [] := by
  have := numJobsBy_pos size maxLen q h
  simp [getQueuedBy, List.take_eq_nil_iff, h]
  omega

theorem getQueuedBy_bound (maxLen : Nat) (q : List α) :
    (((getQueuedBy size maxLen q).1).map size).sum < maxLen ∨ (getQueuedBy size maxLen q).1.length ≤ 1 := by
  unfold getQueuedBy numJobsBy
  simp only
  split
  · right; simp; omega
  · rcases countJobsBy_sum size maxLen q 0 with h0 | hlt
    · right; simp [h0]
    · left; simpa using hlt

theorem getQueuedBy_big_alone (maxLen : Nat) (j : α) (js : List α) (h : size j ≥ maxLen) :
    getQueuedBy size maxLen (j :: js) = ([j], js) := by
  simp [getQueuedBy, numJobsBy, countJobsBy_cons, h]
end

theorem chunks_tile (chunk : Nat) (hc : chunk > 0) (file : Bytes) (fuel start : Nat)
    (hf : fuel + start ≥ file.length + 1) :
    ((chunkStarts chunk file.length fuel start).map
        fun s => (file.drop s).take (min chunk (file.length - s))).flatten = file.drop start := by
  induction fuel generalizing start with
  | zero => exact (List.drop_eq_nil_of_le (by omega)).symm
  | succ fuel ih =>
    rw [chunkStarts]
    split
    · -- `min` only matters in the last chunk, where `take` stops at the end of the file anyway
      rw [List.map_cons, List.flatten_cons, ih (start + chunk) (by omega), ← List.length_drop,
        ← List.take_eq_take_min, ← List.drop_drop, List.take_append_drop]
    · exact (List.drop_eq_nil_of_le (by omega)).symm

theorem memFileChunks_nonempty (chunk : Nat) (file : Bytes) : memFileChunks chunk file ≠ [] := by
  simp [memFileChunks, chunkRanges, chunkStarts]

/-! ### history: exactly once, in order -/

inductive QOp (α : Type) where
  | enqueue (j : α)
  | checkin (asked : Bool)
  | clear

structure QState (α : Type) where
  queue : List α := []
  delivered : List α := []   -- everything handed out so far, in hand-out order
  enqueued : List α := []    -- everything ever queued, in queueing order
  cleared : List α := []     -- jobs dropped by an operator's `task clear`

def qstep {α : Type} (size : α → Nat) (s : QState α) : QOp α → QState α
  | .enqueue j => { s with queue := s.queue ++ [j], enqueued := s.enqueued ++ [j] }
  | .checkin asked =>
    match checkinBy size asked s.queue with
    | (none, r) => { s with queue := r }
    | (some b, r) => { s with queue := r, delivered := s.delivered ++ b }
  | .clear => { s with queue := [], cleared := s.cleared ++ s.queue }

def qrun {α : Type} (size : α → Nat) (ops : List (QOp α)) : QState α :=
  ops.foldl (qstep size) {}

theorem checkinBy_partition {α : Type} (size : α → Nat) (asked : Bool) (q : List α) :
    ((checkinBy size asked q).1.getD []) ++ (checkinBy size asked q).2 = q := by
  unfold checkinBy
  split
  · simp
  · exact getQueuedBy_partition size maxResponse q

theorem qstep_checkin {α : Type} (size : α → Nat) (s : QState α) (asked : Bool) :
    qstep size s (.checkin asked) =
      { s with queue := (checkinBy size asked s.queue).2,
               delivered := s.delivered ++ (checkinBy size asked s.queue).1.getD [] } := by
  simp only [qstep]
  split <;> simp [*]

theorem qstep_inv {α : Type} (size : α → Nat) (s : QState α) (op : QOp α) (hop : op ≠ .clear)
    (h : s.delivered ++ s.queue = s.enqueued) :
    (qstep size s op).delivered ++ (qstep size s op).queue = (qstep size s op).enqueued := by
  cases op with
  | enqueue j => simp [qstep, ← h]
  | clear => exact absurd rfl hop
  | checkin asked => simp [qstep_checkin, List.append_assoc, checkinBy_partition, h]

end Havoc
