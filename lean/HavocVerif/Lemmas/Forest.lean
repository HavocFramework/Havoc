import HavocVerif.Model.Forest
import HavocVerif.Lemmas.ListFacts
namespace Havoc

structure Forest.Inv (f : Forest) : Prop where
  linkIff : ∀ p c, c ∈ f.links p ↔ f.parent c = some p
  nodup : ∀ p, (f.links p).Nodup
  rowsIff : ∀ p c, (p, c) ∈ f.rows ↔ f.parent c = some p
  rowsNodup : f.rows.Nodup
  noSelf : ∀ a, f.parent a ≠ some a
  closed : ∀ c, c ∉ f.agents → f.parent c = none

theorem upd_same {β : Type} (f : Nat → β) (k : Nat) (v : β) : upd f k v k = v := by simp [upd]
theorem upd_other {β : Type} (f : Nat → β) (k x : Nat) (v : β) (h : x ≠ k) : upd f k v x = f x := by
  simp [upd, h]
theorem upd_self {β : Type} (f : Nat → β) (k : Nat) : upd f k (f k) = f :=
  funext fun x => by simp only [upd]; split <;> simp [*]

theorem Forest.inv_init : ({} : Forest).Inv :=
  ⟨by intro p c; simp, by intro p; simp, by intro p c; simp, by simp, by intro a; simp, by intro c _; rfl⟩

theorem Forest.inv_of_active (f : Forest) (h : f.Inv) (act : Nat → Bool) : ({ f with active := act } : Forest).Inv :=
  ⟨h.linkIff, h.nodup, h.rowsIff, h.rowsNodup, h.noSelf, h.closed⟩

/-- `LinkRemove(p, c, true)` keeps the forest consistent (whether or not `c` was a link of `p`) -/
theorem Forest.linkRemove_inv (f : Forest) (h : f.Inv) (p c : Nat) : (f.linkRemove p c true).Inv := by
  by_cases hpc : f.parent c = some p
  · -- `c` is detached: a clause about `c` is now false on both sides, one about another agent is as before
    refine ⟨fun p' c' => ?_, fun p' => ?_, fun p' c' => ?_, h.rowsNodup.filter _, fun a => ?_, fun x hx => ?_⟩
    · by_cases hc : c' = c <;> by_cases hp : p' = p <;>
        simp [Forest.linkRemove, upd, hpc, hc, hp, h.linkIff, (h.nodup _).mem_erase_iff, eq_comm (a := p)]
    · by_cases hp : p' = p <;> simp [Forest.linkRemove, upd, hp, h.nodup, (h.nodup _).erase]
    · by_cases hc : c' = c <;> simp [Forest.linkRemove, upd, hpc, hc, h.rowsIff, eq_comm (a := p)]
    · by_cases ha : a = c <;> simp [Forest.linkRemove, upd, hpc, ha, h.noSelf]
    · by_cases hxc : x = c <;> simp [Forest.linkRemove, upd, hpc, hxc, h.closed x hx]
  · -- nothing is attached there: only `active` changes
    have e1 : (f.links p).erase c = f.links p := List.erase_of_not_mem fun hm => hpc ((h.linkIff p c).mp hm)
    have e2 : f.rows.filter (· ≠ (p, c)) = f.rows :=
      List.filter_eq_self.mpr fun r hr => by simpa using fun e : r = (p, c) => hpc ((h.rowsIff p c).mp (e ▸ hr))
    have e : f.linkRemove p c true = { f with active := upd f.active c false } := by
      simp only [Forest.linkRemove, hpc, if_false, if_true, e1, e2, upd_self]
    rw [e]; exact f.inv_of_active h _

/-- attaching a parentless agent `c` (new, or just detached) under `p ≠ c` -/
theorem Forest.attach_inv (f : Forest) (h : f.Inv) (p c : Nat) (hne : p ≠ c) (hnone : f.parent c = none)
    (ag : List Nat) (act : Nat → Bool) (hcin : c ∈ ag) (hsub : ∀ x ∈ f.agents, x ∈ ag) :
    ({ f with agents := ag, parent := upd f.parent c (some p), links := upd f.links p (f.links p ++ [c]),
              rows := addRow f.rows (p, c), active := act } : Forest).Inv := by
  have hnm : ∀ q, c ∉ f.links q := fun q hm => by simpa [hnone] using (h.linkIff q c).mp hm
  have hnr : ∀ q, (q, c) ∉ f.rows := fun q hm => by simpa [hnone] using (h.rowsIff q c).mp hm
  have hrows : addRow f.rows (p, c) = f.rows ++ [(p, c)] := by simp [addRow, hnr p]
  -- a clause about `c` now holds exactly for `p`, one about another agent is as before
  refine ⟨fun p' c' => ?_, fun p' => ?_, fun p' c' => ?_, ?_, fun a => ?_, fun x hx => ?_⟩
  · by_cases hc : c' = c <;> by_cases hp : p' = p <;> simp [upd, hc, hp, h.linkIff, hnone, eq_comm (a := p)]
  · by_cases hp : p' = p <;> simp [upd, hp, h.nodup, nodup_concat, hnm]
  · by_cases hc : c' = c <;> simp [upd, hrows, hc, h.rowsIff, hnone, eq_comm (a := p)]
  · simp [hrows, nodup_concat, h.rowsNodup, hnr]
  · by_cases ha : a = c <;> simp [upd, ha, h.noSelf, hne]
  · have hxc : x ≠ c := fun e => hx (e ▸ hcin)
    simpa [upd, hxc] using h.closed x fun hm => hx (hsub x hm)

theorem upReaches_self (f : Forest) (fuel : Nat) (p : Nat) : upReaches f (fuel + 1) p p = true := by
  simp [upReaches]

theorem Forest.linkRemove_parent_none (f : Forest) (q c : Nat) (h : f.parent c = some q) :
    (f.linkRemove q c true).parent c = none := by
  simp [Forest.linkRemove, h, upd]

theorem Forest.connect_inv (f : Forest) (h : f.Inv) (p c : Nat) : (f.connect p c).Inv := by
  unfold Forest.connect
  by_cases hpm : p ∈ f.agents
  · rw [if_neg (by simpa using hpm)]
    by_cases hcm : c ∈ f.agents
    · rw [if_neg (by simpa using hcm)]
      by_cases hg : upReaches f (f.agents.length + 1) p c = true
      · rw [if_pos hg]; exact h
      · -- the guard has passed, so `p ≠ c`; `c` is detached from its present parent first
        rw [if_neg hg]
        have hne : p ≠ c := fun e => hg (e ▸ upReaches_self f _ p)
        cases hq : f.parent c with
        | none => exact Forest.attach_inv f h p c hne hq _ _ hcm (fun x hx => hx)
        | some q =>
          exact Forest.attach_inv _ (Forest.linkRemove_inv f h q c) p c hne (Forest.linkRemove_parent_none f q c hq) _ _
            hcm (fun x hx => hx)
    · -- a new agent: it has no parent yet, and is not `p`
      rw [if_pos (by simpa using hcm)]
      exact Forest.attach_inv f h p c (fun e => hcm (e ▸ hpm)) (h.closed c hcm) _ _ (by simp) (fun x hx => by simp [hx])
  · rw [if_pos (by simpa using hpm)]; exact h

/-- detaching, one consistent step at a time: every link of `a`, then `a` from its parent -/
def Forest.detachChildren (f : Forest) (a : Nat) : List Nat → Forest
  | [] => f
  | l :: ls => Forest.detachChildren (f.linkRemove a l true) a ls

def Forest.diedSpec (f : Forest) (a : Nat) : Forest :=
  if ¬ f.agents.contains a then f
  else
    let f1 := f.detachChildren a (f.links a)
    let f2 := match f1.parent a with
      | some q => f1.linkRemove q a true
      | none => f1
    { f2 with active := upd f2.active a false }

theorem Forest.detachChildren_inv (f : Forest) (h : f.Inv) (a : Nat) (ls : List Nat) :
    (f.detachChildren a ls).Inv := by
  induction ls generalizing f with
  | nil => exact h
  | cons l ls ih => exact ih _ (Forest.linkRemove_inv f h a l)

theorem Forest.diedSpec_inv (f : Forest) (h : f.Inv) (a : Nat) : (f.diedSpec a).Inv := by
  unfold Forest.diedSpec
  split
  · exact h
  · have h1 := Forest.detachChildren_inv f h a (f.links a)
    apply Forest.inv_of_active
    split
    · exact Forest.linkRemove_inv _ h1 _ a
    · exact h1

theorem Forest.detachChildren_links (f : Forest) (a : Nat) (ls : List Nat) :
    (f.detachChildren a ls).links a = ls.foldl List.erase (f.links a) := by
  induction ls generalizing f with
  | nil => rfl
  | cons l ls ih => simp [Forest.detachChildren, ih, Forest.linkRemove, upd]

end Havoc
