import HavocVerif.Model.Utf16
namespace Havoc

theorem u16sOf_le16 (v : Nat) (rest : Bytes) (h : v < 65536) :
    u16sOf (le16 v ++ rest) = v :: u16sOf rest := by
  have e : u16sOf (le16 v ++ rest) = leNat (le16 v) :: u16sOf rest := by simp [le16, u16sOf, leNat]
  rw [e, leNat_le16 v h]

theorem u16sOf_units_append (us : List Nat) (rest : Bytes) (h : ∀ u ∈ us, u < 65536) :
    u16sOf (us.flatMap le16 ++ rest) = us ++ u16sOf rest := by
  induction us with
  | nil => rfl
  | cons u us ih =>
    rw [List.forall_mem_cons] at h
    rw [List.flatMap_cons, List.append_assoc, u16sOf_le16 u _ h.1, ih h.2, List.cons_append]

theorem u16sOf_units (us : List Nat) (h : ∀ u ∈ us, u < 65536) :
    u16sOf (us.flatMap le16) = us := by
  have := u16sOf_units_append us [] h
  rwa [List.append_nil, show u16sOf [] = [] from rfl, List.append_nil] at this

theorem isScalar_lt {c : Nat} (hc : isScalar c = true) : c < 0x110000 := by
  simp [isScalar] at hc; omega

theorem utf16Units_lt (cs : List Nat) (h : ∀ c ∈ cs, c < 0x110000) :
    ∀ u ∈ cs.flatMap utf16Units, u < 65536 := by
  intro u hu
  obtain ⟨c, hc, hu⟩ := List.mem_flatMap.mp hu
  have := h c hc
  unfold utf16Units at hu
  split at hu
  · simp at hu; omega
  · simp at hu; omega

theorem utf16Decode_cons_unit (a : Nat) (rest : List Nat) (h1 : isHighSurr a = false)
    (h2 : isLowSurr a = false) : utf16Decode (a :: rest) = a :: utf16Decode rest := by
  cases rest <;> simp [utf16Decode, h1, h2]

theorem utf16Decode_cons_pair (a b : Nat) (rest : List Nat) (h1 : isHighSurr a = true)
    (h2 : isLowSurr b = true) :
    utf16Decode (a :: b :: rest) =
      ((a - 0xD800) * 1024 + (b - 0xDC00) + 0x10000) :: utf16Decode rest := by
  simp [utf16Decode, h1, h2]

theorem utf16Decode_units (c : Nat) (rest : List Nat) (hc : isScalar c = true) :
    utf16Decode (utf16Units c ++ rest) = c :: utf16Decode rest := by
  simp [isScalar] at hc
  unfold utf16Units
  split
  · exact utf16Decode_cons_unit c rest (by simp [isHighSurr]; omega) (by simp [isLowSurr]; omega)
  · next h =>
    -- quotient and remainder by 1024 of `c - 0x10000` go into the pair and come back out of it
    rw [List.cons_append, List.cons_append, List.nil_append, utf16Decode_cons_pair _ _ _
      (by simp [isHighSurr]; omega) (by simp [isLowSurr]; omega),
      Nat.add_sub_cancel_left, Nat.add_sub_cancel_left, Nat.div_add_mod',
      Nat.sub_add_cancel (Nat.le_of_not_lt h)]

theorem utf16Decode_flatMap (cs : List Nat) (h : ∀ c ∈ cs, isScalar c = true) (rest : List Nat) :
    utf16Decode (cs.flatMap utf16Units ++ rest) = cs ++ utf16Decode rest := by
  induction cs with
  | nil => rfl
  | cons c cs ih =>
    rw [List.forall_mem_cons] at h
    rw [List.flatMap_cons, List.append_assoc, utf16Decode_units c _ h.1, ih h.2, List.cons_append]

theorem decodeUTF16_nil : decodeUTF16 [] = [] := by
  rw [decodeUTF16, show u16sOf [] = [] from rfl, utf16Decode]

theorem decodeUTF16_singleton (x : UInt8) : decodeUTF16 [x] = [] := by
  rw [decodeUTF16, show u16sOf [x] = [] from rfl, utf16Decode]

/-- UTF-16LE text of scalar values decodes to those scalars whatever bytes follow it: no surrogate
    pair of the text is split, and what follows is decoded on its own -/
theorem decodeUTF16_encode_append (cs : List Nat) (h : ∀ c ∈ cs, isScalar c = true) (tail : Bytes) :
    decodeUTF16 (encodeUTF16LE cs ++ tail) = cs ++ decodeUTF16 tail := by
  have hu := utf16Units_lt cs fun c hc => isScalar_lt (h c hc)
  rw [decodeUTF16, encodeUTF16LE, u16sOf_units_append _ _ hu, utf16Decode_flatMap cs h]
  rfl

end Havoc
