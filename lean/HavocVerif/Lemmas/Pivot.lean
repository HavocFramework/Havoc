import HavocVerif.Model.Pivot
import HavocVerif.Lemmas.Frame
namespace Havoc

theorem deliverDown_append (xs ys : List Hop) (t : Task) :
    deliverDown (xs ++ ys) t = (deliverDown xs t).bind (deliverDown ys) := by
  induction xs generalizing t with
  | nil => simp [deliverDown]
  | cons h hs ih =>
    simp only [List.cons_append, deliverDown]
    split
    · simp
    · rename_i id data _
      split
      · simp
      · split
        · rename_i t' _; exact ih t'
        · simp

theorem smbRecv_frame (id : Nat) (payload : Bytes) (hid : id < 4294967296)
    (hp : payload.length < 4294967296) (hne : payload.length > 0) :
    smbRecv id (packerFrame id payload) = some payload := by
  have d8 : (le32 id ++ le32 payload.length ++ payload).drop 8 = payload := List.drop_left' rfl
  rw [smbRecv, packerFrame, Nat.mod_eq_of_lt hid, Nat.mod_eq_of_lt hp, d8, if_neg (by simp; omega),
    List.append_assoc, List.take_left' (le32_length id), List.drop_left' (le32_length id),
    List.take_left' (le32_length _), leNat_le32 _ hid, leNat_le32 _ hp]
  simp

theorem relayOf_pivotJob (id : Nat) (payload : Bytes) (hid : id < 4294967296)
    (hp : (packerFrame id payload).length < 4294967296) :
    relayOf (pivotJob id payload).view = some (id, packerFrame id payload) := by
  have hr := demonRead_args (pivotJob id payload).data [] (by simp [pivotJob, Arg.wf, hp])
  rw [List.append_nil] at hr
  have hl : (packerFrame id payload).length ≠ 0 := by simp [packerFrame]
  rw [relayOf, if_neg (by simp [pivotJob, Job.view]),
    show [CKind.int32, .int32, .bytes] = (pivotJob id payload).data.map Arg.ckind from rfl,
    show (pivotJob id payload).view.body = (pivotJob id payload).data.flatMap Arg.encode from rfl, hr]
  simp [pivotJob, Arg.cview, Nat.mod_eq_of_lt hid, hl, Gen.Consts.DEMON_PIVOT_SMB_COMMAND]

end Havoc
