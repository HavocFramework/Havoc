import HavocVerif.Model.Prec
/-
  Lemmas for the precedence theorem of C18: the parser as a relation (its result once the fuel
  suffices) with one introduction rule per branch of the parser, and the induction over spellings.
-/
namespace Havoc.Prec
open Havoc.Hx (BinOp)

/-! ### the parser as a relation

  `PL k ts r`: `parseLevel` returns `r` with every amount of fuel from some amount on (likewise `LP`
  for the loop, `PT` for a term).  This is the shape of the theorem wanted, and it composes as it
  is: two such results hold together from the larger of the two amounts on, so no lemma that more
  fuel keeps a result is needed. -/

def PL (k : Nat) (ts : List Tok) (r : Ex × List Tok) : Prop := ∃ f, ∀ g, f ≤ g → parseLevel g k ts = some r
def LP (k : Nat) (lhs : Ex) (ts : List Tok) (r : Ex × List Tok) : Prop := ∃ f, ∀ g, f ≤ g → parseLoop g k lhs ts = some r
def PT (ts : List Tok) (r : Ex × List Tok) : Prop := ∃ f, ∀ g, f ≤ g → parseTerm g ts = some r

/-- every parser function spends one unit of fuel before it looks at anything -/
theorem ev_succ {p : Nat → Prop} (f : Nat) (h : ∀ g, f ≤ g → p (g + 1)) : ∃ f', ∀ g, f' ≤ g → p g :=
  ⟨f + 1, fun g hg => by
    cases g with
    | zero => omega
    | succ g => exact h g (by omega)⟩

theorem PT_atom (n : Nat) (rest : List Tok) : PT (.atom n :: rest) (.atom n, rest) :=
  ev_succ 0 fun g _ => by simp [parseTerm]

theorem PT_paren {ts : List Tok} {e : Ex} {rest : List Tok} (h : PL 0 ts (e, .rp :: rest)) : PT (.lp :: ts) (e, rest) := by
  obtain ⟨f, hf⟩ := h
  exact ev_succ f fun g hg => by simp [parseTerm, hf g hg]

theorem PL_term {k : Nat} {ts : List Tok} {r} (hk : nLevels ≤ k) (h : PT ts r) : PL k ts r := by
  obtain ⟨f, hf⟩ := h
  exact ev_succ f fun g hg => by simp [parseLevel, hk, hf g hg]

/-- the loop stops at a token that is not an operator of its level -/
def stopsAt (k : Nat) : List Tok → Prop
  | .op o :: _ => lvl o ≠ k
  | _ => True

theorem parseLoop_stop {k : Nat} {ts : List Tok} (h : stopsAt k ts) (f : Nat) (lhs : Ex) :
    parseLoop (f + 1) k lhs ts = some (lhs, ts) := by
  unfold parseLoop
  split
  · exact if_neg h
  · rfl

theorem LP_stop {k : Nat} {lhs : Ex} {ts : List Tok} (h : stopsAt k ts) : LP k lhs ts (lhs, ts) :=
  ev_succ 0 fun g _ => parseLoop_stop h g lhs

theorem LP_step {k : Nat} {lhs y : Ex} {o : BinOp} {ts' rest : List Tok} {r} (ho : lvl o = k)
    (h1 : PL (k + 1) ts' (y, rest)) (h2 : LP k (.bin o lhs y) rest r) : LP k lhs (.op o :: ts') r := by
  obtain ⟨f1, hf1⟩ := h1
  obtain ⟨f2, hf2⟩ := h2
  exact ev_succ (max f1 f2) fun g hg => by simp [parseLoop, ho, hf1 g (by omega), hf2 g (by omega)]

theorem stopsAt_top {k : Nat} (hk : nLevels ≤ k) (ts : List Tok) : stopsAt k ts := by
  unfold stopsAt
  split
  · next o _ =>
    have := lvl_lt o
    omega
  · trivial

/-- `parseLevel` itself, for every `k`: from `nLevels` on both levels are `parseTerm` and the loop takes nothing -/
theorem PL_step {k : Nat} {ts : List Tok} {x : Ex} {rest : List Tok} {r}
    (h1 : PL (k + 1) ts (x, rest)) (h2 : LP k x rest r) : PL k ts r := by
  obtain ⟨f1, hf1⟩ := h1
  obtain ⟨f2, hf2⟩ := h2
  refine ev_succ (max f1 f2) fun g hg => ?_
  by_cases hk : nLevels ≤ k
  · have e1 := hf1 (g + 1) (by omega)
    have e2 := hf2 (g + 1) (by omega)
    rw [parseLevel, if_pos (Nat.le_succ_of_le hk)] at e1
    rw [parseLoop_stop (stopsAt_top hk rest)] at e2
    rw [parseLevel, if_pos hk, e1, e2]
  · simp [parseLevel, hk, hf1 g (by omega), hf2 g (by omega)]

/-! ### what may follow a spelling -/

theorem headOK_stops {c i : Nat} {rest : List Tok} (h : headOK c rest) (hi : c < i) : stopsAt i rest := by
  cases rest with
  | nil => trivial
  | cons t ts =>
    cases t with
    | op o => exact Nat.ne_of_lt (Nat.lt_of_le_of_lt h hi)
    | _ => trivial

theorem headOK_mono {c d : Nat} {rest : List Tok} (h : headOK c rest) (hcd : c ≤ d) : headOK d rest := by
  cases rest with
  | nil => trivial
  | cons t ts =>
    cases t with
    | op o => exact Nat.le_trans h hcd
    | _ => trivial

/-- from an operand of a level `m` above `c` down to level `c`: what follows stops the loops in
    between at once, the loop of level `c` decides -/
theorem PL_descend {c : Nat} {ts : List Tok} {x : Ex} {rest : List Tok} {r} (hok : headOK c rest) (hl : LP c x rest r) :
    ∀ m, c < m → PL m ts (x, rest) → PL c ts r := by
  intro m
  induction m with
  | zero => exact fun hm => absurd hm (Nat.not_lt_zero c)
  | succ m ih =>
    intro hm h
    by_cases hcm : c = m
    · subst hcm
      exact PL_step h hl
    · exact ih (by omega) (PL_step h (LP_stop (headOK_stops hok (by omega))))

theorem PL_of_term {c : Nat} {ts : List Tok} {x : Ex} {rest : List Tok} {r}
    (ht : PT ts (x, rest)) (hok : headOK c rest) (hl : LP c x rest r) : PL c ts r :=
  PL_descend hok hl (c + nLevels + 1) (by omega) (PL_term (by omega) ht)

/-- **Every spelling parses back to its tree.**  Stated with what follows (`rest`) so that it composes:
    after the spelling of `e` the loop of level `c` goes on with `e` as its left operand. -/
theorem spelling_parses {c : Nat} {e : Ex} {ts : List Tok} (hs : Spelling c e ts) :
    ∀ rest r, headOK c rest → LP c e rest r → PL c (ts ++ rest) r := by
  induction hs with
  | atom c n => exact fun rest r hok hl => PL_of_term (PT_atom n rest) hok hl
  | paren c e ts _ ih =>
    intro rest r hok hl
    have inner : PL 0 (ts ++ .rp :: rest) (e, .rp :: rest) := ih _ _ trivial (LP_stop trivial)
    have eq : ([Tok.lp] ++ ts ++ [Tok.rp]) ++ rest = .lp :: (ts ++ .rp :: rest) := by simp
    rw [eq]
    exact PL_of_term (PT_paren inner) hok hl
  | bin c o l r tl tr hco _ _ ihl ihr =>
    intro rest R hok hl
    have eq : (tl ++ [Tok.op o] ++ tr) ++ rest = tl ++ (.op o :: (tr ++ rest)) := by simp
    rw [eq]
    have hr : PL (lvl o + 1) (tr ++ rest) (r, rest) :=
      ihr _ _ (headOK_mono hok (by omega)) (LP_stop (headOK_stops hok (by omega)))
    have hop : headOK (lvl o) (.op o :: (tr ++ rest)) := Nat.le_refl _
    by_cases hcp : c = lvl o
    · -- the loop of this level takes the operator and the right operand, and goes on with what follows
      subst hcp
      exact ihl _ _ hop (LP_step rfl hr hl)
    · -- what follows belongs to a lower level: the loop of `lvl o` stops after one round
      have hlt : c < lvl o := by omega
      exact PL_descend hok hl (lvl o) hlt (ihl _ _ hop (LP_step rfl hr (LP_stop (headOK_stops hok hlt))))

theorem pr_spelling (e : Ex) : ∀ c, Spelling c e (pr c e) := by
  induction e with
  | atom n => exact fun c => Spelling.atom c n
  | bin o l r ihl ihr =>
    intro c
    unfold pr
    split
    · exact Spelling.paren c _ _ (Spelling.bin 0 o l r _ _ (Nat.zero_le _) (ihl _) (ihr _))
    · exact Spelling.bin c o l r _ _ (by omega) (ihl _) (ihr _)

end Havoc.Prec
