import HavocVerif.Model.Sessions
import HavocVerif.Lemmas.CanIRead
import HavocVerif.Lemmas.Payload
namespace Havoc
open Parser

def strKinds : List ReadType := [.bytes, .bytes, .bytes, .bytes, .bytes]
def numKinds : List ReadType :=
  [.int32, .int32, .int32, .int32, .int32, .int64, .int32, .int32, .int32, .int32, .int32, .int32,
   .int32, .int32, .int64, .int32]
def guardTail : List ReadType :=
  [.int32, .int32, .int32, .int32, .int32, .int32, .int32, .int32, .int32, .int32, .int32, .int32,
   .int64, .int32]

theorem registerKinds_eq : registerKinds = .int32 :: (strKinds ++ numKinds) := rfl
theorem registerGuard_eq : registerGuard = (.int32 :: strKinds) ++ guardTail := rfl

theorem registerOf_id (hdrId : Nat) (key iv body : Bytes) (s : Session)
    (h : registerOf hdrId key iv body = some s) : s.id = hdrId ∧ s.key = key ∧ s.iv = iv := by
  simp only [registerOf] at h
  split at h
  · split at h
    · split at h
      · rename_i hne
        cases h
        exact ⟨hne.symm, rfl, rfl⟩
      · cases h
    · cases h
  · cases h

theorem parseRegister_id (hdrId : Nat) (ksFor : Bytes → Bytes → KeyStream) (buf : Bytes) (s : Session)
    (h : parseRegister hdrId ksFor buf = some s) : s.id = hdrId := by
  unfold parseRegister at h
  split at h
  · cases h
  · exact (registerOf_id _ _ _ _ _ h).1

theorem handleInit_table (ksFor : Bytes → Bytes → KeyStream) (s : Sessions) (hdrId : Nat) (buf : Bytes) :
    (handleInit ksFor s hdrId buf).1 = s ∨
      ∃ sess r, handleInit ksFor s hdrId buf = (s ++ [sess], .registered r) ∧ sess.id = hdrId ∧
        hdrId ∉ s.map (·.id) := by
  unfold handleInit
  split
  · exact .inl rfl
  · next hnone =>
    split
    · next sess hp =>
      refine .inr ⟨sess, _, rfl, parseRegister_id _ _ _ _ hp, ?_⟩
      simpa using List.find?_eq_none.mp hnone
    · exact .inl rfl

theorem parseRegister_append (hdrId : Nat) (ksFor : Bytes → Bytes → KeyStream) (key iv enc : Bytes)
    (hk : key.length = 32) (hiv : iv.length = 16) :
    parseRegister hdrId ksFor (key ++ iv ++ enc) =
      registerOf hdrId key iv (if allZero key then enc else xcrypt (ksFor key iv) enc) := by
  have d48 : (key ++ iv ++ enc).drop 48 = enc := List.drop_left' (by simp [hk, hiv])
  rw [parseRegister, if_neg (by simp [hk, hiv]; omega), d48, List.append_assoc, List.take_left' hk,
    List.drop_left' hk, List.take_left' hiv]

theorem xcrypt_unless_twice (z : Bool) (ks : KeyStream) (x : Bytes) :
    (if z then (if z then x else xcrypt ks x) else xcrypt ks (if z then x else xcrypt ks x)) = x := by
  cases z <;> simp [xcrypt_involutive]

/-- the pre-flight list is shorter than the reads: past the strings it is a length comparison -/
theorem guard_of_encoded (id : Nat) (strs nums : List Field) (hid : id < 4294967296)
    (hs : strs.map Field.kind = strKinds) (hn : nums.map Field.kind = numKinds)
    (hwf : ∀ f ∈ strs ++ nums, f.wf) :
    canIRead ⟨encodeFields (.int32 id :: (strs ++ nums)), true⟩ registerGuard = true := by
  have hwf' : ∀ f ∈ Field.int32 id :: strs, f.wf :=
    List.forall_mem_cons.mpr ⟨hid, fun f hf => hwf f (List.mem_append_left _ hf)⟩
  have hk : (Field.int32 id :: strs).map Field.kind = .int32 :: strKinds := by simp [Field.kind, hs]
  rw [canIRead_eq_holdsFieldsB, registerGuard_eq, ← List.cons_append, encodeFields_append, ← hk,
    holdsFieldsB_encode_append _ hwf', ← canIRead_eq_holdsFieldsB]
  refine (canIReadFrom_fixed _ guardTail (by decide) 0 (Nat.zero_le _)).mpr ?_
  rw [Parser.length, encodeFields_fixed_length nums (by rw [hn]; decide), hn]
  decide

end Havoc
