import HavocVerif.Model.Loot
/-
  Containment of cleaned paths, component-wise.  The step from strings to components is the round trip
  `compsOf (joinByte slash cs) = cs` together with `compsOf` distributing over a separator.
-/
namespace Havoc

def NoSlash (c : Bytes) : Prop := slash ∉ c

def GoodComps (l : List Bytes) : Prop := ∀ c ∈ l, NoSlash c ∧ c ≠ []

theorem splitByte_ne_nil (sep : UInt8) (p : Bytes) : ∃ cur rest, splitByte sep p = cur :: rest := by
  cases p with
  | nil => exact ⟨_, _, rfl⟩
  | cons b bs =>
    rw [splitByte]
    split
    · exact ⟨_, _, rfl⟩
    · split <;> exact ⟨_, _, rfl⟩

theorem splitByte_append (sep : UInt8) (a b : Bytes) :
    splitByte sep (a ++ sep :: b) = splitByte sep a ++ splitByte sep b := by
  induction a with
  | nil =>
    obtain ⟨cur, rest, h⟩ := splitByte_ne_nil sep b
    simp [splitByte, h]
  | cons x a ih =>
    obtain ⟨cur, rest, h⟩ := splitByte_ne_nil sep a
    rw [List.cons_append, splitByte, ih, splitByte, h]
    by_cases hx : x = sep <;> simp [hx]

theorem splitByte_single (c : Bytes) (h : NoSlash c) : splitByte slash c = [c] := by
  induction c with
  | nil => rfl
  | cons x xs ih =>
    have hx : x ≠ slash := fun e => h (by simp [e])
    simp [splitByte, ih fun m => h (by simp [m]), hx]

theorem compsOf_append (a b : Bytes) : compsOf (a ++ slash :: b) = compsOf a ++ compsOf b := by
  simp [compsOf, splitByte_append]

theorem compsOf_join (cs : List Bytes) (h : GoodComps cs) : compsOf (joinByte slash cs) = cs := by
  induction cs with
  | nil => rfl
  | cons c cs ih =>
    have hc := h c (by simp)
    have hcs : GoodComps cs := fun x hx => h x (by simp [hx])
    have h1 : compsOf c = [c] := by simp [compsOf, splitByte_single c hc.1, hc.2]
    cases cs with
    | nil => exact h1
    | cons d ds =>
      show compsOf (c ++ [slash] ++ joinByte slash (d :: ds)) = _
      rw [List.append_assoc, List.singleton_append, compsOf_append, h1, ih hcs]; rfl

/-- a join that continues another one at a separator continues its components -/
theorem join_prefix (ds cs : List Bytes) (tail : Bytes) (hcs : GoodComps cs) (hds : GoodComps ds)
    (ht : tail = [] ∨ ∃ r, tail = slash :: r) (h : joinByte slash cs = joinByte slash ds ++ tail) : ds <+: cs := by
  have := congrArg compsOf h
  rw [compsOf_join cs hcs] at this
  rcases ht with rfl | ⟨r, rfl⟩
  · rw [List.append_nil, compsOf_join ds hds] at this
    exact this ▸ List.prefix_refl _
  · rw [compsOf_append, compsOf_join ds hds] at this
    exact ⟨_, this.symm⟩

theorem splitByte_noslash (p : Bytes) : ∀ c ∈ splitByte slash p, NoSlash c := by
  induction p with
  | nil => simp [splitByte, NoSlash]
  | cons b bs ih =>
    obtain ⟨cur, rest, h⟩ := splitByte_ne_nil slash bs
    rw [splitByte, h]
    rw [h] at ih
    by_cases hb : b = slash
    · simpa [hb, NoSlash] using ih
    · simp only [hb, if_false, List.mem_cons, forall_eq_or_imp]
      exact ⟨fun m => (List.mem_cons.mp m).elim (fun e => hb e.symm) (ih cur (by simp)), fun c hc => ih c (by simp [hc])⟩

theorem resolveComps_all (P : Bytes → Prop) (rooted : Bool) (cs : List Bytes) :
    ∀ acc, (∀ c ∈ cs, c ≠ [] → P c) → (∀ c ∈ acc, P c) → ∀ c ∈ resolveComps rooted cs acc, P c := by
  induction cs with
  | nil => intro acc _ ha c hc; exact ha c (by simpa [resolveComps] using hc)
  | cons x xs ih =>
    intro acc hcs ha
    have hxs : ∀ c ∈ xs, c ≠ [] → P c := fun c hc => hcs c (by simp [hc])
    simp only [resolveComps]
    split
    · exact ih acc hxs ha
    · rename_i hne
      have hx : P x := hcs x (by simp) fun e => hne (Or.inl e)
      have hpush : ∀ c ∈ x :: acc, P c := by simpa [hx] using ha
      split
      · split
        · split
          · exact ih _ hxs hpush
          · exact ih _ hxs fun c hc => ha c (by simp [hc])
        · split
          · exact ih _ hxs (by simp)
          · exact ih _ hxs (by simpa using hx)
      · exact ih _ hxs hpush

theorem cleanComps_good (p : Bytes) : GoodComps (cleanComps p).2 :=
  resolveComps_all (fun c => NoSlash c ∧ c ≠ []) _ _ [] (fun c hc hne => ⟨splitByte_noslash p c hc, hne⟩) (by simp)

theorem hasPrefixB_iff (s pre : Bytes) : hasPrefixB s pre = true ↔ pre <+: s := by
  rw [hasPrefixB, beq_iff_eq, List.prefix_iff_eq_take]; exact eq_comm

theorem cleanPath_rooted (p : Bytes) (hp : p.head? = some slash) :
    cleanPath p = slash :: joinByte slash (cleanComps p).2 := by
  simp [cleanPath, cleanComps, hp]

/-- The containment test means containment: if a rooted path passes `insideDir` for a rooted
    directory, the directory's cleaned components are a prefix of the path's cleaned components. -/
theorem insideDir_components (path dir : Bytes) (hp : path.head? = some slash) (hd : dir.head? = some slash)
    (h : insideDir path dir = true) : (cleanComps dir).2 <+: (cleanComps path).2 := by
  unfold insideDir at h
  rw [cleanPath_rooted path hp, cleanPath_rooted dir hd, Bool.or_eq_true, beq_iff_eq, hasPrefixB_iff] at h
  rcases h with h | ⟨t, h⟩
  · exact join_prefix _ _ [] (cleanComps_good _) (cleanComps_good _) (Or.inl rfl) (by simpa using h)
  · exact join_prefix _ _ (slash :: t) (cleanComps_good _) (cleanComps_good _) (Or.inr ⟨_, rfl⟩) (by simpa using h.symm)

end Havoc
