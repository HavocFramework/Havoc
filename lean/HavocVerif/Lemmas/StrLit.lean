import HavocVerif.Model.StrLit
/-
  Both spellings are written byte by byte, and `unquote` reads each piece back as that byte in one
  step (`unquote_hexByte`, `unquote_plainByte`); the round trips are the inductions over the string.
  Fuel is counted as `k + (length + 1)` so that a step is a definitional unfolding.
-/
namespace Havoc.StrLit

theorem hexDigit8_spec : ∀ n : Fin 16, isHex (hexDigit8 n) = true ∧ hexVal8 (hexDigit8 n) = n := by decide +kernel

theorem byte_split (b : UInt8) : UInt8.ofNat (b.toNat / 16 * 16 + b.toNat % 16) = b := by
  rw [Nat.div_add_mod']; exact UInt8.ofNat_toNat

/-- a hex run stops at a backslash or at the end -/
theorem hexRun_spellHex (rest : Bytes) : hexRun (spellHex rest) = ([], spellHex rest) := by
  cases rest <;> rfl

theorem unquote_x (s : List UInt8) (f : Nat) :
    unquote (f + 1) (92 :: 120 :: s) = (unquote f (hexRun s).2).map (decodePairs (hexRun s).1 ++ ·) := rfl

theorem unquote_hexByte (b : UInt8) (s : List UInt8) (f : Nat) (hs : hexRun s = ([], s)) :
    unquote (f + 1) (92 :: 120 :: hexDigit8 (b.toNat / 16) :: hexDigit8 (b.toNat % 16) :: s) = (unquote f s).map (b :: ·) := by
  have hi := hexDigit8_spec ⟨b.toNat / 16, by have := b.toNat_lt; omega⟩
  have lo := hexDigit8_spec ⟨b.toNat % 16, by omega⟩
  simp only [unquote_x, hexRun, hi.1, lo.1, hs, if_true, decodePairs, hi.2, lo.2, byte_split]
  rfl

theorem unquote_spellHex (v : Bytes) (k : Nat) : unquote (k + (v.length + 1)) (spellHex v) = some v := by
  induction v with
  | nil => rfl
  | cons b rest ih =>
    show unquote (k + (rest.length + 1) + 1) (92 :: 120 :: _ :: _ :: spellHex rest) = _
    rw [unquote_hexByte b _ _ (hexRun_spellHex rest), ih]; rfl

/-- a byte that starts no escape, template marker or line end stands for itself -/
theorem unquote_raw (b : UInt8) (s : List UInt8) (f : Nat)
    (h : b ≠ 92 ∧ b ≠ 36 ∧ b ≠ 37 ∧ b ≠ 34 ∧ b ≠ 10 ∧ b ≠ 13) :
    unquote (f + 1) (b :: s) = (unquote f s).map (b :: ·) := by
  obtain ⟨h1, h2, h3, h4, h5, h6⟩ := h
  -- the equation of the last pattern; its side conditions say that no earlier pattern matches
  rw [unquote] <;> intros <;> contradiction

def NoTemplateChar (v : Bytes) : Prop := ∀ b ∈ v, b ≠ 36 ∧ b ≠ 37

theorem spellPlain_cons (b : UInt8) (rest : Bytes) (h : b ≠ 36 ∧ b ≠ 37) :
    spellPlain (b :: rest) =
      (if b = 10 then [92, 110] else if b = 13 then [92, 114] else if b = 9 then [92, 116]
       else if b = 34 then [92, 34] else if b = 92 then [92, 92] else [b]) ++ spellPlain rest := by
  rw [spellPlain] <;> simp_all

/-- each of the five short escapes is one step of `unquote` by evaluation; what is left is raw -/
theorem unquote_plainByte (b : UInt8) (s : List UInt8) (f : Nat) (h : b ≠ 36 ∧ b ≠ 37) :
    unquote (f + 1) ((if b = 10 then [92, 110] else if b = 13 then [92, 114] else if b = 9 then [92, 116]
       else if b = 34 then [92, 34] else if b = 92 then [92, 92] else [b]) ++ s) = (unquote f s).map (b :: ·) := by
  by_cases h1 : b = 10
  · subst b; rfl
  by_cases h2 : b = 13
  · subst b; rfl
  by_cases h3 : b = 9
  · subst b; rfl
  by_cases h4 : b = 34
  · subst b; rfl
  by_cases h5 : b = 92
  · subst b; rfl
  rw [if_neg h1, if_neg h2, if_neg h3, if_neg h4, if_neg h5]
  exact unquote_raw b s f ⟨h5, h.1, h.2, h4, h1, h2⟩

theorem unquote_spellPlain (v : Bytes) (hv : NoTemplateChar v) (k : Nat) :
    unquote (k + (v.length + 1)) (spellPlain v) = some v := by
  induction v with
  | nil => rfl
  | cons b rest ih =>
    have hb := hv b (by simp)
    show unquote (k + (rest.length + 1) + 1) _ = _
    rw [spellPlain_cons b rest hb, unquote_plainByte b _ _ hb, ih fun x hx => hv x (by simp [hx])]; rfl

end Havoc.StrLit
