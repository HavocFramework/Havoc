import HavocVerif.Model.QueueConc
/-
  Helper lemmas for the schedule theorems of C04: what a schedule executes of every thread.
-/
namespace Havoc

theorem mem_interleave {β : Type} (ts : List (List β)) (sched : List Nat) (op : β)
    (h : op ∈ interleave ts sched) : ∃ t ∈ ts, op ∈ t := by
  induction sched generalizing ts with
  | nil => simp [interleave] at h
  | cons i sched ih =>
    simp only [interleave] at h
    split at h
    · next o rest hi =>
      have hmem : (o :: rest) ∈ ts := List.mem_of_getElem? hi
      rcases List.mem_cons.mp h with rfl | h'
      · exact ⟨_, hmem, List.mem_cons_self⟩
      · obtain ⟨t, ht, hop⟩ := ih _ h'
        rcases List.mem_or_eq_of_mem_set ht with ht' | rfl
        · exact ⟨t, ht', hop⟩
        · exact ⟨_, hmem, List.mem_cons_of_mem _ hop⟩
    · exact ih _ h

/-- every thread's items carry the thread's own index as tag -/
def WellTagged {γ : Type} (ts : List (List (QOp (Nat × γ)))) : Prop :=
  ∀ (i : Nat) (t : List (QOp (Nat × γ))), ts[i]? = some t → ∀ x : Nat × γ, QOp.enqueue x ∈ t → x.1 = i

theorem wellTagged_set {γ : Type} (ts : List (List (QOp (Nat × γ)))) (j : Nat) (o : QOp (Nat × γ))
    (rest : List (QOp (Nat × γ))) (hj : ts[j]? = some (o :: rest)) (h : WellTagged ts) :
    WellTagged (ts.set j rest) := by
  intro i t hi x hx
  by_cases e : j = i
  · subst e
    rw [List.getElem?_set_self (List.getElem?_eq_some_iff.mp hj).1] at hi
    cases hi
    exact h j _ hj x (List.mem_cons_of_mem _ hx)
  · rw [List.getElem?_set_ne e] at hi
    exact h i t hi x hx

theorem executed_step {β : Type} (ts : List (List β)) (j : Nat) (o : β) (rest : List β)
    (hj : ts[j]? = some (o :: rest)) (sched : List Nat) (i : Nat) :
    executed ts (j :: sched) i =
      if j = i then o :: executed (ts.set j rest) sched i else executed (ts.set j rest) sched i := by
  have hlt : j < ts.length := (List.getElem?_eq_some_iff.mp hj).1
  by_cases e : j = i
  · subst e
    simp [executed, hj, List.getElem?_set_self hlt, List.take_succ_cons]
  · simp [executed, List.getElem?_set_ne e, e]

/-- `hno`, in the shape `split` leaves it in `interleave`: thread `j` has finished or does not exist -/
theorem executed_skip {β : Type} (ts : List (List β)) (j : Nat)
    (hno : ∀ o rest, ts[j]? = some (o :: rest) → False) (sched : List Nat) (i : Nat) :
    executed ts (j :: sched) i = executed ts sched i := by
  by_cases e : j = i
  · subst e
    have : ts[j]?.getD [] = [] := by
      match hj : ts[j]? with
      | none => rfl
      | some [] => rfl
      | some (o :: rest) => exact (hno o rest hj).elim
    simp [executed, this]
  · simp [executed, e]

theorem enq_filter_one {γ : Type} (o : QOp (Nat × γ)) (i j : Nat) (h : ∀ x, QOp.enqueue x = o → x.1 = j) :
    (enqueuedOf [o]).filter (fun x => x.1 == i) = if j = i then enqueuedOf [o] else [] := by
  cases o with
  | enqueue x => by_cases e : j = i <;> simp [enqueuedOf, h x rfl, e]
  | _ => simp [enqueuedOf]

/-- the tasks of producer `i` inside the global history are exactly what `i` has executed, in `i`'s order -/
theorem enq_filter {γ : Type} (ts : List (List (QOp (Nat × γ)))) (sched : List Nat) (i : Nat)
    (h : WellTagged ts) :
    (enqueuedOf (interleave ts sched)).filter (fun x => x.1 == i) = enqueuedOf (executed ts sched i) := by
  induction sched generalizing ts with
  | nil => simp [interleave, executed, enqueuedOf]
  | cons j sched ih =>
    simp only [interleave]
    split
    · rename_i o rest hj
      rw [executed_step ts j o rest hj, enqueuedOf_cons, List.filter_append,
        ih _ (wellTagged_set ts j o rest hj h),
        enq_filter_one o i j fun x hx => h j _ hj x (by simp [hx])]
      split
      · exact (enqueuedOf_cons o _).symm
      · rfl
    · rename_i hno
      rw [executed_skip ts j hno]
      exact ih ts h

end Havoc
