import HavocVerif.Model.Payload
namespace Havoc

theorem xcryptFrom_length (ks : KeyStream) (i : Nat) (bs : Bytes) :
    (xcryptFrom ks i bs).length = bs.length := by
  induction bs generalizing i with
  | nil => rfl
  | cons b bs ih => simp [xcryptFrom, ih]

@[simp] theorem xcrypt_length (ks : KeyStream) (bs : Bytes) : (xcrypt ks bs).length = bs.length :=
  xcryptFrom_length ks 0 bs

theorem xcryptFrom_involutive (ks : KeyStream) (i : Nat) (bs : Bytes) :
    xcryptFrom ks i (xcryptFrom ks i bs) = bs := by
  induction bs generalizing i with
  | nil => rfl
  | cons b bs ih =>
    simp only [xcryptFrom, ih]
    congr 1
    rw [UInt8.xor_assoc, UInt8.xor_self, UInt8.xor_zero]

theorem xcrypt_involutive (ks : KeyStream) (bs : Bytes) : xcrypt ks (xcrypt ks bs) = bs :=
  xcryptFrom_involutive ks 0 bs

theorem cGetInt32_le (v : Nat) (rest : Bytes) (h : v < 4294967296) :
    cGetInt32 (le32 v ++ rest) = (v, rest) := by
  simp [cGetInt32, List.take_left' (le32_length v), List.drop_left' (le32_length v), leNat_le32 v h]
  omega

theorem cGetInt64_le (v : Nat) (rest : Bytes) (h : v < 18446744073709551616) :
    cGetInt64 (le64 v ++ rest) = (v, rest) := by
  simp [cGetInt64, List.take_left' (le64_length v), List.drop_left' (le64_length v), leNat_le64 v h]
  omega

theorem cGetInt16_le (v : Nat) (rest : Bytes) (h : v < 65536) :
    cGetInt16 (le16 v ++ rest) = (v, rest) := by
  simp [cGetInt16, List.take_left' (le16_length v), List.drop_left' (le16_length v), leNat_le16 v h]
  omega

theorem cGetBytes_le (b rest : Bytes) (h : b.length < 4294967296) :
    cGetBytes (le32 b.length ++ b ++ rest) = some (b, rest) := by
  simp [cGetBytes, List.take_left' (le32_length _), List.drop_left' (le32_length _), leNat_le32 _ h]
  rw [if_neg (by omega), if_neg (by omega)]

theorem demonRead_arg (a : Arg) (ks : List CKind) (rest : Bytes) (h : a.wf) :
    demonRead (a.ckind :: ks) (a.encode ++ rest)
      = (demonRead ks rest).map fun (vs, r) => (a.cview :: vs, r) := by
  have m32 (v : Nat) : v % 4294967296 < 4294967296 := Nat.mod_lt v (by decide)
  have m64 (v : Nat) : v % 18446744073709551616 < 18446744073709551616 := Nat.mod_lt v (by decide)
  have m16 (v : Nat) : v % 65536 < 65536 := Nat.mod_lt v (by decide)
  cases a with
  | int v | int32 v | uint32 v => simp [Arg.ckind, Arg.encode, Arg.cview, demonRead, cGetInt32_le, m32]
  | int64 v | uint64 v => simp [Arg.ckind, Arg.encode, Arg.cview, demonRead, cGetInt64_le, m64]
  | int16 v | uint16 v => simp [Arg.ckind, Arg.encode, Arg.cview, demonRead, cGetInt16_le, m16]
  | str s =>
    have h' : (cstr s).length < 4294967296 := h
    simp only [Arg.ckind, Arg.encode, Arg.cview, demonRead, Nat.mod_eq_of_lt h', cGetBytes_le _ rest h']
  | bytes b =>
    have h' : b.length < 4294967296 := h
    simp only [Arg.ckind, Arg.encode, Arg.cview, demonRead, Nat.mod_eq_of_lt h', cGetBytes_le _ rest h']
  | byte b => simp [Arg.ckind, Arg.encode, Arg.cview, demonRead, cGetByte]
  | bool b => cases b <;> simp [Arg.ckind, Arg.encode, Arg.cview, demonRead, cGetInt32_le]

theorem demonRead_args (args : List Arg) (rest : Bytes) (h : ∀ a ∈ args, a.wf) :
    demonRead (args.map Arg.ckind) (args.flatMap Arg.encode ++ rest)
      = some (args.map Arg.cview, rest) := by
  induction args with
  | nil => rfl
  | cons a as ih =>
    rw [List.forall_mem_cons] at h
    rw [List.map_cons, List.flatMap_cons, List.append_assoc, demonRead_arg a _ _ h.1, ih h.2]
    rfl

end Havoc
