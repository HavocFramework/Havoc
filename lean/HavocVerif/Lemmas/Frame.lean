import HavocVerif.Lemmas.Payload
namespace Havoc

def Job.wf (j : Job) : Prop :=
  j.command < 4294967296 ∧ j.requestId < 4294967296 ∧ j.body.length < 4294967296 ∧
    j.command ≠ Gen.Consts.COMMAND_NOJOB

/-- a frame whose three header words fit 32 bits; the empty body is its own ciphertext, so the
    test on the length in `BuildPayloadMessage` only saves a call -/
theorem Job.frame_eq (ks : KeyStream) (j : Job) (h1 : j.command < 4294967296)
    (h2 : j.requestId < 4294967296) (h3 : j.body.length < 4294967296) :
    j.frame ks = le32 j.command ++ (le32 j.requestId ++ (le32 j.body.length ++ xcrypt ks j.body)) := by
  have e : (if j.body.length > 0 then xcrypt ks j.body else []) = xcrypt ks j.body := by
    split
    · rfl
    · rw [List.eq_nil_of_length_eq_zero (by omega : j.body.length = 0)]
      rfl
  simp [Job.frame, e, Nat.mod_eq_of_lt h1, Nat.mod_eq_of_lt h2, Nat.mod_eq_of_lt h3]

theorem Job.frame_length (ks : KeyStream) (j : Job) : (j.frame ks).length ≥ 12 := by
  simp [Job.frame]; omega

theorem buildPayload_cons (ks : KeyStream) (j : Job) (js : List Job) :
    buildPayload ks (j :: js) = j.frame ks ++ buildPayload ks js := rfl

theorem buildPayload_length (ks : KeyStream) (js : List Job) :
    (buildPayload ks js).length ≥ 12 * js.length := by
  induction js with
  | nil => simp [buildPayload]
  | cons j js ih =>
    rw [buildPayload_cons, List.length_append, List.length_cons]
    have := Job.frame_length ks j
    omega

theorem demonLoop_frame (ks : KeyStream) (fuel : Nat) (j : Job) (rest : Bytes) (acc : List Task)
    (h1 : j.command < 4294967296) (h2 : j.requestId < 4294967296) (h3 : j.body.length < 4294967296) :
    demonLoop ks (fuel + 1) (j.frame ks ++ rest) acc =
      let acc' := if j.command ≠ Gen.Consts.COMMAND_NOJOB then acc ++ [j.view] else acc
      if Gen.Demon.dispatcherContinue rest.length then demonLoop ks fuel rest acc' else some acc' := by
  have hb := cGetBytes_le (xcrypt ks j.body) rest (by rw [xcrypt_length]; exact h3)
  rw [xcrypt_length, List.append_assoc] at hb
  -- the Demon's test on the size skips a decryption that would change nothing
  have hp : (if j.body.length ≠ 0 then j.body else []) = j.body := by
    split
    · rfl
    · rw [List.eq_nil_of_length_eq_zero (by omega : j.body.length = 0)]
  simp only [Job.frame_eq ks j h1 h2 h3, demonLoop, List.append_assoc, cGetInt32_le _ _ h1,
    cGetInt32_le _ _ h2, hb, xcrypt_length, xcrypt_involutive, hp]
  rfl

theorem demonLoop_jobs (ks : KeyStream) (hcont : ∀ n, n ≥ 12 → Gen.Demon.dispatcherContinue n = true)
    (hstop : Gen.Demon.dispatcherContinue 0 = false)
    (js : List Job) (j : Job) (fuel : Nat) (acc : List Task) (hf : fuel ≥ js.length)
    (h : ∀ x ∈ j :: js,
      x.command < 4294967296 ∧ x.requestId < 4294967296 ∧ x.body.length < 4294967296) :
    demonLoop ks (fuel + 1) (buildPayload ks (j :: js)) acc =
      some (acc ++ ((j :: js).filter (·.command ≠ Gen.Consts.COMMAND_NOJOB)).map Job.view) := by
  induction js generalizing j fuel acc with
  | nil =>
    obtain ⟨h1, h2, h3⟩ := h j (by simp)
    rw [buildPayload_cons, demonLoop_frame ks fuel j _ acc h1 h2 h3]
    by_cases h4 : j.command = Gen.Consts.COMMAND_NOJOB <;> simp [buildPayload, hstop, h4]
  | cons k ks' ih =>
    obtain ⟨h1, h2, h3⟩ := h j (by simp)
    rw [buildPayload_cons, demonLoop_frame ks fuel j _ acc h1 h2 h3]
    have hl : (buildPayload ks (k :: ks')).length ≥ 12 := by
      have := buildPayload_length ks (k :: ks'); simp at this; omega
    cases fuel with
    | zero => simp at hf
    | succ fuel' =>
      simp only [hcont _ hl, if_true]
      rw [ih k fuel' _ (by simp at hf; omega) (fun x hx => h x (List.mem_cons_of_mem _ hx))]
      by_cases h4 : j.command = Gen.Consts.COMMAND_NOJOB <;> simp [h4]

/-- regenerated fact: the Demon's task loop goes on while at least one frame header is left -/
theorem loop_continues (n : Nat) (h : n ≥ 12) : Gen.Demon.dispatcherContinue n = true := by
  simp [Gen.Demon.dispatcherContinue]; omega

theorem loop_stops : Gen.Demon.dispatcherContinue 0 = false := by
  simp [Gen.Demon.dispatcherContinue]

/-- the Demon sees every job of a non-empty batch but the no-job markers, in order -/
theorem dispatch_buildPayload (ks : KeyStream) (j : Job) (js : List Job)
    (h : ∀ x ∈ j :: js,
      x.command < 4294967296 ∧ x.requestId < 4294967296 ∧ x.body.length < 4294967296) :
    demonDispatch ks (buildPayload ks (j :: js)) =
      some (((j :: js).filter (·.command ≠ Gen.Consts.COMMAND_NOJOB)).map Job.view) := by
  have hl := buildPayload_length ks (j :: js)
  simpa [demonDispatch] using
    demonLoop_jobs ks loop_continues loop_stops js j (buildPayload ks (j :: js)).length []
      (by simp at hl ⊢; omega) h

theorem dispatch_roundtrip (ks : KeyStream) (j : Job) (js : List Job) (h : ∀ x ∈ j :: js, x.wf) :
    demonDispatch ks (buildPayload ks (j :: js)) = some ((j :: js).map Job.view) := by
  rw [dispatch_buildPayload ks j js fun x hx => ⟨(h x hx).1, (h x hx).2.1, (h x hx).2.2.1⟩,
    List.filter_eq_self.mpr fun x hx => by simpa using (h x hx).2.2.2]

end Havoc
