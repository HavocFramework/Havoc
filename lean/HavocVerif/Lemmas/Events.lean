import HavocVerif.Model.Events
import HavocVerif.Lemmas.ListFacts
namespace Havoc

/-! what each primitive leaves alone -/

@[simp] theorem emit_conns (s : Hub) (t : List Nat) (e : Ev) : (s.emit t e).conns = s.conns := rfl
@[simp] theorem emit_retained (s : Hub) (t : List Nat) (e : Ev) : (s.emit t e).retained = s.retained := rfl
@[simp] theorem emit_sessions (s : Hub) (t : List Nat) (e : Ev) : (s.emit t e).sessions = s.sessions := rfl
@[simp] theorem emit_listeners (s : Hub) (t : List Nat) (e : Ev) : (s.emit t e).listeners = s.listeners := rfl
@[simp] theorem emit_failed (s : Hub) (t : List Nat) (e : Ev) : (s.emit t e).failed = s.failed := rfl
@[simp] theorem broadcast_conns (s : Hub) (e : Ev) (x : Option Nat) : (s.broadcast e x).conns = s.conns := rfl
@[simp] theorem broadcast_retained (s : Hub) (e : Ev) (x : Option Nat) : (s.broadcast e x).retained = s.retained := rfl
@[simp] theorem broadcast_sessions (s : Hub) (e : Ev) (x : Option Nat) : (s.broadcast e x).sessions = s.sessions := rfl
@[simp] theorem broadcast_listeners (s : Hub) (e : Ev) (x : Option Nat) : (s.broadcast e x).listeners = s.listeners := rfl
@[simp] theorem broadcast_failed (s : Hub) (e : Ev) (x : Option Nat) : (s.broadcast e x).failed = s.failed := rfl
@[simp] theorem retain_conns (s : Hub) (e : Ev) : (s.retain e).conns = s.conns := rfl
@[simp] theorem retain_retained (s : Hub) (e : Ev) : (s.retain e).retained = s.retained ++ [e] := rfl
@[simp] theorem retain_sessions (s : Hub) (e : Ev) : (s.retain e).sessions = s.sessions := rfl
@[simp] theorem retain_listeners (s : Hub) (e : Ev) : (s.retain e).listeners = s.listeners := rfl
@[simp] theorem retain_failed (s : Hub) (e : Ev) : (s.retain e).failed = s.failed := rfl
@[simp] theorem retain_delivered (s : Hub) (e : Ev) : (s.retain e).delivered = s.delivered := rfl
@[simp] theorem setState_retained (s : Hub) (c : Nat) (st : HConn) : (s.setState c st).retained = s.retained := rfl
@[simp] theorem setState_sessions (s : Hub) (c : Nat) (st : HConn) : (s.setState c st).sessions = s.sessions := rfl
@[simp] theorem setState_listeners (s : Hub) (c : Nat) (st : HConn) : (s.setState c st).listeners = s.listeners := rfl
@[simp] theorem setState_failed (s : Hub) (c : Nat) (st : HConn) : (s.setState c st).failed = s.failed := rfl
@[simp] theorem setState_delivered (s : Hub) (c : Nat) (st : HConn) : (s.setState c st).delivered = s.delivered := rfl

theorem setState_keys (s : Hub) (c : Nat) (st : HConn) : (s.setState c st).conns.map (·.1) = s.conns.map (·.1) := by
  simp only [Hub.setState, List.map_map]
  congr 1; funext x; obtain ⟨k, v⟩ := x; simp only [Function.comp]; split <;> rfl

/-- `emit` and `emitMany` both hand frames to the transport, which drops those for a connection that has failed -/
def Hub.send (s : Hub) (fs : List (Nat × Ev)) : Hub :=
  { s with delivered := s.delivered ++ fs.filter fun p => !s.failed.contains p.1 }

theorem emit_eq_send (s : Hub) (t : List Nat) (e : Ev) : s.emit t e = s.send (t.map fun c => (c, e)) := by
  simp only [Hub.emit, Hub.send, List.filter_map, Function.comp_def]

theorem emitMany_eq_send (s : Hub) (c : Nat) (es : List Ev) : s.emitMany c es = s.send (es.map fun e => (c, e)) := by
  have all : ∀ p ∈ es.map fun e => (c, e), p.1 = c := by simp
  unfold Hub.emitMany Hub.send
  cases hf : s.failed.contains c
  · rw [List.filter_eq_self.mpr fun p hp => by rw [all p hp, hf]; rfl]; rfl
  · rw [List.filter_eq_nil_iff.mpr fun p hp => by rw [all p hp, hf]; simp]; simp

@[simp] theorem emitMany_conns (s : Hub) (c : Nat) (es : List Ev) : (s.emitMany c es).conns = s.conns := by
  rw [emitMany_eq_send]; rfl
@[simp] theorem emitMany_retained (s : Hub) (c : Nat) (es : List Ev) : (s.emitMany c es).retained = s.retained := by
  rw [emitMany_eq_send]; rfl
@[simp] theorem emitMany_sessions (s : Hub) (c : Nat) (es : List Ev) : (s.emitMany c es).sessions = s.sessions := by
  rw [emitMany_eq_send]; rfl
@[simp] theorem emitMany_listeners (s : Hub) (c : Nat) (es : List Ev) : (s.emitMany c es).listeners = s.listeners := by
  rw [emitMany_eq_send]; rfl
@[simp] theorem emitMany_failed (s : Hub) (c : Nat) (es : List Ev) : (s.emitMany c es).failed = s.failed := by
  rw [emitMany_eq_send]; rfl

/-! what a connection has received after each primitive -/

/-- one copy of the event per occurrence among the targets that are still reachable -/
theorem received_emit (s : Hub) (t : List Nat) (e : Ev) (c : Nat) :
    (s.emit t e).received c = s.received c ++ List.replicate ((t.filter fun x => !s.failed.contains x).count c) e := by
  simp only [Hub.received, Hub.emit, List.filter_append, List.map_append, List.filter_map, Function.comp_def,
    List.filter_eq, List.map_replicate]

theorem received_emitMany (s : Hub) (c d : Nat) (es : List Ev) :
    (s.emitMany d es).received c = s.received c ++ (if d = c ∧ s.failed.contains d = false then es else []) := by
  unfold Hub.emitMany
  by_cases hc : d = c <;> cases hf : s.failed.contains d <;>
    simp [Hub.received, hc, List.filter_map, Function.comp_def]

theorem received_retain (s : Hub) (e : Ev) (c : Nat) : (s.retain e).received c = s.received c := rfl
theorem received_setState (s : Hub) (d : Nat) (st : HConn) (c : Nat) : (s.setState d st).received c = s.received c := rfl

/-! ### two runs that differ only in whether connection `d`'s transport has failed -/

structure SameBut (d : Nat) (s t : Hub) : Prop where
  conns : t.conns = s.conns
  retained : t.retained = s.retained
  sessions : t.sessions = s.sessions
  listeners : t.listeners = s.listeners
  failed : ∀ x, x ≠ d → t.failed.contains x = s.failed.contains x
  delivered : t.delivered.filter (fun p => decide (p.1 ≠ d)) = s.delivered.filter (fun p => decide (p.1 ≠ d))

theorem SameBut.refl (d : Nat) (s : Hub) : SameBut d s s := ⟨rfl, rfl, rfl, rfl, fun _ _ => rfl, rfl⟩

theorem SameBut.stateOf {d : Nat} {s t : Hub} (h : SameBut d s t) (c : Nat) : t.stateOf c = s.stateOf c := by
  simp only [Hub.stateOf, h.conns]

theorem SameBut.authedIds {d : Nat} {s t : Hub} (h : SameBut d s t) : t.authedIds = s.authedIds := by
  simp only [Hub.authedIds, h.conns]

theorem SameBut.activeSessions {d : Nat} {s t : Hub} (h : SameBut d s t) : t.activeSessions = s.activeSessions := by
  simp only [Hub.activeSessions, h.sessions]

/-- the same change to the fields on which the two states agree -/
theorem SameBut.update {d : Nat} {s t : Hub} (h : SameBut d s t) (fc : List (Nat × HConn) → List (Nat × HConn)) (fr : List Ev → List Ev)
    (fs : List (String × Bool) → List (String × Bool)) (fl : List String → List String) :
    SameBut d { s with conns := fc s.conns, retained := fr s.retained, sessions := fs s.sessions, listeners := fl s.listeners }
      { t with conns := fc t.conns, retained := fr t.retained, sessions := fs t.sessions, listeners := fl t.listeners } :=
  ⟨congrArg fc h.conns, congrArg fr h.retained, congrArg fs h.sessions, congrArg fl h.listeners, h.failed, h.delivered⟩

theorem SameBut.retain {d : Nat} {s t : Hub} (h : SameBut d s t) (e : Ev) : SameBut d (s.retain e) (t.retain e) :=
  h.update id (· ++ [e]) id id

theorem SameBut.setState {d : Nat} {s t : Hub} (h : SameBut d s t) (c : Nat) (st : HConn) : SameBut d (s.setState c st) (t.setState c st) :=
  h.update (List.map _) id id id

/-- frames for `d` are not compared, and for every other connection the two transports agree -/
theorem SameBut.send {d : Nat} {s t : Hub} (h : SameBut d s t) (fs : List (Nat × Ev)) : SameBut d (s.send fs) (t.send fs) := by
  refine ⟨h.conns, h.retained, h.sessions, h.listeners, h.failed, ?_⟩
  simp only [Hub.send, List.filter_append, List.filter_filter, h.delivered]
  congr 1
  apply List.filter_congr
  intro p _
  by_cases hp : p.1 = d
  · simp [hp]
  · rw [h.failed p.1 hp]

theorem SameBut.emit {d : Nat} {s t : Hub} (h : SameBut d s t) (targets : List Nat) (e : Ev) : SameBut d (s.emit targets e) (t.emit targets e) := by
  rw [emit_eq_send, emit_eq_send]; exact h.send _

theorem SameBut.emitMany {d : Nat} {s t : Hub} (h : SameBut d s t) (c : Nat) (es : List Ev) : SameBut d (s.emitMany c es) (t.emitMany c es) := by
  rw [emitMany_eq_send, emitMany_eq_send]; exact h.send _

theorem SameBut.broadcast {d : Nat} {s t : Hub} (h : SameBut d s t) (e : Ev) (ex : Option Nat) :
    SameBut d (s.broadcast e ex) (t.broadcast e ex) := by
  unfold Hub.broadcast; rw [h.authedIds]; exact h.emit _ e

theorem SameBut.received {d : Nat} {s t : Hub} (h : SameBut d s t) {c : Nat} (hcd : c ≠ d) : t.received c = s.received c := by
  have key : ∀ D : List (Nat × Ev), D.filter (·.1 = c) = (D.filter fun p => decide (p.1 ≠ d)).filter (·.1 = c) := fun D => by
    rw [List.filter_filter]
    exact List.filter_congr fun p _ => by by_cases hp : p.1 = c <;> simp [hp, hcd]
  unfold Hub.received
  rw [key, key s.delivered, h.delivered]

theorem SameBut.ite {d : Nat} {s t s' t' : Hub} {p q : Prop} [Decidable p] [Decidable q] (hpq : p ↔ q) (h : SameBut d s t) (h' : SameBut d s' t') :
    SameBut d (if p then s else s') (if q then t else t') := by
  by_cases hp : p
  · rw [if_pos hp, if_pos (hpq.mp hp)]; exact h
  · rw [if_neg hp, if_neg (mt hpq.mpr hp)]; exact h'

end Havoc
