import HavocVerif.Model.ParserGo
namespace Havoc
open Parser

@[simp] theorem GoM.ok_bind {α β} (a : α) (f : α → GoM β) : (Except.ok a >>= f) = f a := rfl
@[simp] theorem GoM.pure_eq {α} (a : α) : (pure a : GoM α) = .ok a := rfl

theorem goSlice_ok (s : Bytes) (lo hi : Nat) (h1 : hi ≤ s.length) (h2 : lo ≤ hi) :
    goSlice s lo hi = .ok ((s.take hi).drop lo) := by
  simp [goSlice, Nat.not_lt.mpr h1, Nat.not_lt.mpr h2]

/- the three shapes parser.go uses: `s[:n]`, `s[n:]`, `s[n:n+k]` -/
theorem goSlice_prefix (s : Bytes) (n : Nat) (h : n ≤ s.length) : goSlice s 0 n = .ok (s.take n) := by
  simp [goSlice_ok s 0 n h]

theorem goSlice_suffix (s : Bytes) (n : Nat) (h : n ≤ s.length) :
    goSlice s n s.length = .ok (s.drop n) := by
  simp [goSlice_ok s n s.length (Nat.le_refl _) h]

theorem goSlice_window (s : Bytes) (n k : Nat) (h : n + k ≤ s.length) :
    goSlice s n (n + k) = .ok ((s.drop n).take k) := by
  rw [goSlice_ok s n (n + k) h (Nat.le_add_right n k), List.take_drop]

/- Every refinement below is the same argument: under the length test of its branch each slice
   expression is in bounds (`omega` from the test), so the Go code is the pure reader. -/
attribute [local simp] goSlice_prefix goSlice_suffix List.drop_eq_nil_of_le List.take_of_length_le

theorem parseInt32_refines (p : Parser) : ParserGo.parseInt32 p = .ok (Parser.parseInt32 p) := by
  unfold ParserGo.parseInt32 Parser.parseInt32 Parser.length
  split
  · split <;> simp (disch := omega)
  · rfl

theorem parseInt64_refines (p : Parser) : ParserGo.parseInt64 p = .ok (Parser.parseInt64 p) := by
  unfold ParserGo.parseInt64 Parser.parseInt64 Parser.length
  split
  · split <;> simp (disch := omega)
  · rfl

theorem parseBytes_refines (p : Parser) : ParserGo.parseBytes p = .ok (Parser.parseBytes p) := by
  unfold ParserGo.parseBytes Parser.parseBytes
  split
  · simp only [parseInt32_refines, GoM.ok_bind, Parser.length]
    generalize Parser.parseInt32 p = r
    by_cases h : r.1 > r.2.buf.length <;> simp (disch := omega) [h]
  · rfl

theorem parseAtLeastBytes_refines (p : Parser) (n : Nat) :
    ParserGo.parseAtLeastBytes p n = .ok (Parser.parseAtLeastBytes p n) := by
  unfold ParserGo.parseAtLeastBytes Parser.parseAtLeastBytes Parser.length
  split <;> simp (disch := omega)

theorem canIReadFrom_refines (p : Parser) (ts : List ReadType) (n : Nat) :
    ParserGo.canIReadFrom p ts n = .ok (Parser.canIReadFrom p ts n) := by
  induction ts generalizing n with
  | nil => rfl
  | cons t ts ih =>
    cases t with
    | bytes =>
      simp only [ParserGo.canIReadFrom, Parser.canIReadFrom]
      split
      · rfl
      · -- past the first test the one slice expression is in bounds
        rw [goSlice_window _ _ _ (by rw [Parser.length] at *; omega), GoM.ok_bind]
        split
        · rfl
        · exact ih _
    | _ =>
      simp only [ParserGo.canIReadFrom, Parser.canIReadFrom]
      split
      · rfl
      · exact ih _

end Havoc
