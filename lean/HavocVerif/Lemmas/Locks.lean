import HavocVerif.Model.Locks
/-
  The regenerated lock and table-write tables are evaluated here, once each and over all their rows.
  What the properties state about them (`Props/C01, C04, C07, C11, C15, C16`) is a selection of packages
  or tables from the result and needs no further sweep.
-/
namespace Havoc
open Gen.LockFacts

/-- selecting the rows that fail a test which no row fails -/
theorem filter_not_eq_nil {α β : Type} {l : List α} {q : α → Bool} (h : ∀ x ∈ l, q x = true)
    (sel : α → Bool) (f : α → β) : (l.filter fun x => sel x && !q x).map f = [] := by
  simp only [List.map_eq_nil_iff, List.filter_eq_nil_iff]
  intro x hx
  simp [h x hx]

/-! ### lock balance: no row of either table is unbalanced, so no selection of packages finds one -/

theorem funcs_balanced : ∀ x ∈ funcs, balanced x.2.2 = true := by decide +kernel

theorem paths_balanced : ∀ x ∈ Gen.LockPaths.funcs, x.2.2.all balanced = true := by decide +kernel

theorem unbalancedIn_eq_nil (pkgs : List String) : unbalancedIn pkgs = [] :=
  filter_not_eq_nil funcs_balanced _ _

theorem pathsUnbalancedIn_eq_nil (pkgs : List String) : pathsUnbalancedIn pkgs = [] :=
  filter_not_eq_nil paths_balanced _ _

/-! ### guarded accesses: the scan does not depend on the packages and tables asked about -/

/-- what `accessStep` finds, function by function, before any selection:
    (package, function, tables touched without their mutex) -/
def unguardedAll : List (String × String × List String) :=
  funcs.filterMap fun (pkg, n, evs) =>
    let bad := (evs.foldl accessStep {}).bad
    if bad = [] then none else some (pkg, n, bad)

/-- The one sweep over `Gen.LockFacts.funcs`; the row it finds is the finding of `C11.events_list_guarded`.
    Nearly all of its cost is `guardsExpr` taking strings apart, which is slow in the kernel and slower in
    the elaborator: hence `+kernel`, and hence one sweep for all properties. -/
theorem unguardedAll_eq : unguardedAll = [("server", "Teamserver.ListenerRemove", ["EventsList"])] := by
  decide +kernel

/-- `unguardedIn` only selects from the scan -/
theorem unguardedIn_eq (pkgs tables : List String) :
    unguardedIn pkgs tables = unguardedAll.filterMap fun (pkg, n, bad) =>
      if pkgs.contains pkg ∧ bad.filter (tables.contains ·) ≠ [] then
        some (pkg ++ "/" ++ n, bad.filter (tables.contains ·)) else none := by
  unfold unguardedIn unguardedAll unguarded
  rw [List.filterMap_filterMap]
  congr 1
  funext ⟨pkg, n, evs⟩
  by_cases h : (evs.foldl accessStep {}).bad = [] <;> simp [h]

/-! ### table writes: every assignment in the table is value-like, whatever tables are asked about -/

theorem writes_value_like : ∀ w ∈ Gen.TableWrites.writes, valueLikeShape w.2.2.2 = true := by decide +kernel

theorem aliasingWrites_eq_nil (tables : List String) : aliasingWrites tables = [] :=
  filter_not_eq_nil writes_value_like _ _

end Havoc
