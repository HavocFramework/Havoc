import HavocVerif.Model.Parser
namespace Havoc
open Parser

theorem parseInt32_be (v : Nat) (rest : Bytes) (h : v < 4294967296) :
    parseInt32 ⟨be32 v ++ rest, true⟩ = (v, ⟨rest, true⟩) := by
  simp [parseInt32, Parser.length, Parser.u32, List.take_left' (be32_length v),
    List.drop_left' (be32_length v), beNat_be32 v h]

theorem parseInt64_be (v : Nat) (rest : Bytes) (h : v < 18446744073709551616) :
    parseInt64 ⟨be64 v ++ rest, true⟩ = (v, ⟨rest, true⟩) := by
  simp [parseInt64, Parser.length, Parser.u32, List.take_left' (be64_length v),
    List.drop_left' (be64_length v), beNat_be64 v h]

theorem parseBool_be (b : Bool) (rest : Bytes) :
    parseBool ⟨be32 (if b then 1 else 0) ++ rest, true⟩ = (b, ⟨rest, true⟩) := by
  cases b <;> simp [parseBool, parseInt32_be]

theorem parseBytes_be (d rest : Bytes) (h : d.length < 4294967296) :
    parseBytes ⟨be32 d.length ++ d ++ rest, true⟩ = (d, ⟨rest, true⟩) := by
  simp [parseBytes, parseInt32_be _ _ h, Parser.length]
  omega

theorem readField_encode (f : Field) (rest : Bytes) (h : f.wf) :
    Parser.readField ⟨f.encode ++ rest, true⟩ f.kind = (f, ⟨rest, true⟩) := by
  cases f with
  | int32 v => simp [Field.encode, Field.kind, Parser.readField, parseInt32_be v rest h]
  | int64 v => simp [Field.encode, Field.kind, Parser.readField, parseInt64_be v rest h]
  | pointer v => simp [Field.encode, Field.kind, Parser.readField, parseInt64_be v rest h]
  | bool b => simp [Field.encode, Field.kind, Parser.readField, parseBool_be b rest]
  | bytes d => simp only [Field.encode, Field.kind, Parser.readField, parseBytes_be d rest h]

@[simp] theorem encodeFields_cons (f : Field) (fs : List Field) :
    encodeFields (f :: fs) = f.encode ++ encodeFields fs := rfl

theorem encodeFields_append (fs gs : List Field) :
    encodeFields (fs ++ gs) = encodeFields fs ++ encodeFields gs := List.flatMap_append

end Havoc
