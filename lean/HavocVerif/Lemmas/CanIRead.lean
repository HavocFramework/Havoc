import HavocVerif.Lemmas.Parser
import HavocVerif.Spec.C03
/-
  `CanIRead` (big endian) is the executable spec `holdsFieldsB` on the buffer, and that one
  says the buffer starts with the listed fields (`holdsFields`).  Everything else about the
  pre-flight check is proved about `holdsFieldsB`, whose equations are its definition.
-/
namespace Havoc
open Parser

/-- "the packet holds the fields": the buffer starts with a well-formed big-endian
    encoding of one field of each listed kind (whatever follows). -/
def holdsFields : List ReadType → Bytes → Prop
  | [], _ => True
  | .int32 :: ts, buf => ∃ w rest, w.length = 4 ∧ buf = w ++ rest ∧ holdsFields ts rest
  | .bool :: ts, buf => ∃ w rest, w.length = 4 ∧ buf = w ++ rest ∧ holdsFields ts rest
  | .int64 :: ts, buf => ∃ w rest, w.length = 8 ∧ buf = w ++ rest ∧ holdsFields ts rest
  | .pointer :: ts, buf => ∃ w rest, w.length = 8 ∧ buf = w ++ rest ∧ holdsFields ts rest
  | .bytes :: ts, buf => ∃ d rest, d.length < 4294967296 ∧ buf = be32 d.length ++ d ++ rest
      ∧ holdsFields ts rest

theorem canIRead_nil (p : Parser) : canIRead p [] = true := rfl

open SpecC03

/-- the cursor of `CanIRead` at `n` sees what the spec sees on the buffer from `n` on -/
theorem canIReadFrom_eq_holdsFieldsB (buf : Bytes) (ts : List ReadType) (n : Nat) :
    canIReadFrom ⟨buf, true⟩ ts n = holdsFieldsB ts (buf.drop n) := by
  induction ts generalizing n with
  | nil => rfl
  | cons t ts ih =>
    cases t <;>
      simp only [canIReadFrom, holdsFieldsB, ih, Parser.length, Parser.u32, List.length_drop,
        List.drop_drop, if_true, Bool.if_false_left, Nat.add_assoc, ← Nat.not_le, decide_not,
        Bool.not_not]
    -- left: `bytes`, where the two write the second test differently; they agree under the first
    by_cases h : 4 ≤ buf.length - n
    · have e : ∀ k, k ≤ buf.length - (n + 4) ↔ 4 + k ≤ buf.length - n := by omega
      simp only [e, Bool.and_assoc]
    · simp [h]

theorem canIRead_eq_holdsFieldsB (ts : List ReadType) (buf : Bytes) :
    canIRead ⟨buf, true⟩ ts = holdsFieldsB ts buf :=
  canIReadFrom_eq_holdsFieldsB buf ts 0

private theorem fixedB (k : Nat) (buf : Bytes) (P : Bytes → Prop) :
    (k ≤ buf.length ∧ P (buf.drop k)) ↔ ∃ w rest, w.length = k ∧ buf = w ++ rest ∧ P rest := by
  constructor
  · rintro ⟨h, hp⟩
    exact ⟨buf.take k, buf.drop k, List.length_take_of_le h, (List.take_append_drop k buf).symm, hp⟩
  · rintro ⟨w, rest, hw, rfl, hp⟩
    rw [List.drop_left' hw]
    exact ⟨by simp [← hw], hp⟩

theorem holdsFieldsB_iff (ts : List ReadType) (buf : Bytes) :
    holdsFieldsB ts buf = true ↔ holdsFields ts buf := by
  induction ts generalizing buf with
  | nil => simp [holdsFieldsB, holdsFields]
  | cons t ts ih =>
    cases t <;> simp only [holdsFieldsB, holdsFields, Bool.and_eq_true, decide_eq_true_eq, ih]
    case bytes =>
      constructor
      · rintro ⟨⟨h4, hn⟩, hp⟩
        have ht : (buf.take 4).length = 4 := List.length_take_of_le h4
        have hl : ((buf.drop 4).take (beNat (buf.take 4))).length = beNat (buf.take 4) :=
          List.length_take_of_le (by simp; omega)
        refine ⟨(buf.drop 4).take (beNat (buf.take 4)), _, ?_, ?_, hp⟩
        · rw [hl]
          exact beNat_lt_4 _ ht
        · rw [hl, be32_beNat _ ht, ← List.drop_drop, List.append_assoc, List.take_append_drop,
            List.take_append_drop]
      · rintro ⟨d, rest, hd, rfl, hp⟩
        rw [List.append_assoc, List.take_left' (be32_length _), beNat_be32 _ hd,
          ← List.append_assoc, List.drop_left' (by simp)]
        exact ⟨⟨by simp, by simp⟩, hp⟩
    all_goals exact fixedB _ buf _

theorem canIRead_iff (ts : List ReadType) (buf : Bytes) :
    canIRead ⟨buf, true⟩ ts = true ↔ holdsFields ts buf := by
  rw [canIRead_eq_holdsFieldsB]
  exact holdsFieldsB_iff ts buf

theorem holdsFieldsB_encode_cons (f : Field) (hf : f.wf) (ts : List ReadType) (rest : Bytes) :
    holdsFieldsB (f.kind :: ts) (f.encode ++ rest) = holdsFieldsB ts rest := by
  cases f with
  | bytes d =>
    have hd : d.length < 4294967296 := hf
    simp [Field.kind, Field.encode, holdsFieldsB, List.take_left' (be32_length _), beNat_be32 _ hd,
      ← List.drop_drop, List.drop_left' (be32_length _)]
  | _ =>
    simp [Field.kind, Field.encode, holdsFieldsB, List.drop_left' (be32_length _),
      List.drop_left' (be64_length _)]

theorem holdsFieldsB_encode_append (fs : List Field) (hfs : ∀ f ∈ fs, f.wf) (ts : List ReadType)
    (rest : Bytes) :
    holdsFieldsB (fs.map Field.kind ++ ts) (encodeFields fs ++ rest) = holdsFieldsB ts rest := by
  induction fs with
  | nil => rfl
  | cons f fs ih =>
    rw [List.forall_mem_cons] at hfs
    rw [List.map_cons, List.cons_append, encodeFields_cons, List.append_assoc,
      holdsFieldsB_encode_cons f hfs.1, ih hfs.2]

/-! ### lists without byte strings: the check is a length comparison, in either byte order -/

def ReadType.fixedWidth : ReadType → Nat
  | .int32 | .bool => 4
  | .int64 | .pointer => 8
  | .bytes => 0

def fixedTotal (ts : List ReadType) : Nat := (ts.map ReadType.fixedWidth).sum

theorem canIReadFrom_cons_fixed (p : Parser) (t : ReadType) (ts : List ReadType) (n : Nat)
    (ht : t ≠ .bytes) :
    canIReadFrom p (t :: ts) n =
      if p.length - n < t.fixedWidth then false else canIReadFrom p ts (n + t.fixedWidth) := by
  cases t with
  | bytes => exact absurd rfl ht
  | _ => rfl

theorem canIReadFrom_fixed (p : Parser) (ts : List ReadType) (hfix : ∀ t ∈ ts, t ≠ .bytes) (n : Nat)
    (hn : n ≤ p.length) : canIReadFrom p ts n = true ↔ n + fixedTotal ts ≤ p.length := by
  induction ts generalizing n with
  | nil => simpa [canIReadFrom, fixedTotal] using hn
  | cons t ts ih =>
    rw [List.forall_mem_cons] at hfix
    rw [canIReadFrom_cons_fixed p t ts n hfix.1, fixedTotal, List.map_cons, List.sum_cons]
    split
    · simp
      omega
    · rw [ih hfix.2 _ (by omega), fixedTotal]
      omega

theorem Field.encode_length (f : Field) (h : f.kind ≠ .bytes) :
    f.encode.length = f.kind.fixedWidth := by
  cases f <;> simp [Field.kind, Field.encode, ReadType.fixedWidth] at h ⊢

theorem encodeFields_fixed_length (fs : List Field) (hk : ∀ t ∈ fs.map Field.kind, t ≠ .bytes) :
    (encodeFields fs).length = fixedTotal (fs.map Field.kind) := by
  induction fs with
  | nil => rfl
  | cons f fs ih =>
    rw [List.map_cons, List.forall_mem_cons] at hk
    simp [fixedTotal, f.encode_length hk.1, ih hk.2]

end Havoc
